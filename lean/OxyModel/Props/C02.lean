import OxyModel.Proofs.Rebal.Range
import OxyModel.Props.C01

/-!
# C02 — traffic is routed only to current pool members (balancer and rebalancer)

Property theorems only (helper lemmas: `OxyModel/Proofs/Pool`, `OxyModel/Proofs/Rebal`).  Model:
`RB.Sys` (`Model/Rebalancer.lean`) = a bare `RoundRobin` (`viaRb = false`) or a `Rebalancer` over a
`RoundRobin` (`viaRb = true`), with an explicit object heap (`Model/Pool.lean`).  A history is any list
of `RB.Op`: add / update (with or without weight, negative weights), remove (known or unknown),
`NextServer`, requests (sticky cookie, downstream handler rewriting `req.URL`), meter readings and
clock steps.  `RB.specOf v hist : Key → Option Nat` is the set defined by the add / update / remove
calls of the history (with the configured weights).
-/
namespace C02
open RB PoolM RR

/-- the system after a history, from a fresh instance -/
def reach (viaRb sticky : Bool) (backoff : Nat) (newReady : Bool) (hist : List Op) : Sys :=
  (Sys.init viaRb sticky backoff newReady).applyOps hist

-- `Sys.reach_spec` stated on `reach`, so that `generalize reach … = s at *` carries its parts along
private theorem reach_spec (v st : Bool) (bo : Nat) (nr : Bool) (hist : List Op) :
    (reach v st bo nr hist).Inv ∧ (reach v st bo nr hist).spec = specOf v hist ∧
    (reach v st bo nr hist).viaRb = v ∧ (reach v st bo nr hist).sticky = st :=
  Sys.reach_spec v st bo nr hist

/-- **C02 (membership, bare balancer)**: after every prefix of every history — repeated adds,
    removes of unknown servers, requests, URL-rewriting handlers included — a key is in the pool iff
    the add / update / remove calls so far define it, with exactly the configured weight. -/
theorem C02_refines_set (sticky : Bool) (bo : Nat) (nr : Bool) (hist : List Op) (k : Key) :
    (k ∈ (reach false sticky bo nr hist).bal.view.keys ↔ (specOf false hist k).isSome) ∧
    (reach false sticky bo nr hist).bal.weight k = specOf false hist k ∧
    (reach false sticky bo nr hist).bal.view.keys.Nodup := by
  obtain ⟨hi, hr, hv, _⟩ := reach_spec false sticky bo nr hist
  exact ⟨hr ▸ hi.mem_keys k, congrFun ((Sys.spec_bare hv).symm.trans hr) k, hi.bal.nodup⟩

/-- **C02 (membership, through the rebalancer)**: identically — and the rebalancer's own records are
    the same servers in the same order, each remembering exactly the configured weight. -/
theorem C02_refines_set_rebalancer (sticky : Bool) (bo : Nat) (nr : Bool) (hist : List Op) (k : Key) :
    (k ∈ (reach true sticky bo nr hist).bal.view.keys ↔ (specOf true hist k).isSome) ∧
    (reach true sticky bo nr hist).reb.configured k = specOf true hist k ∧
    (reach true sticky bo nr hist).reb.servers.map Rec.key = (reach true sticky bo nr hist).bal.view.keys ∧
    (reach true sticky bo nr hist).bal.view.keys.Nodup := by
  obtain ⟨hi, hr, hv, _⟩ := reach_spec true sticky bo nr hist
  exact ⟨hr ▸ hi.mem_keys k, congrFun ((Sys.spec_reb hv).symm.trans hr) k, (hi.reb hv).keys, hi.bal.nodup⟩

/-- **C02 (only members receive traffic)**: whatever `NextServer()` returns or a request is
    forwarded to is one of the URLs stored in the pool at that moment (hence a member by
    `C02_refines_set`), for both front ends. -/
theorem C02_selected_is_member (v st : Bool) (bo : Nat) (nr : Bool) (hist : List Op) (op : Op) (x : URL)
    (hx : ((reach v st bo nr hist).step op).2.routedTo = some x) :
    x ∈ (reach v st bo nr hist).servers ∧ (specOf v hist x.key).isSome := by
  obtain ⟨hi, hr, _, _⟩ := reach_spec v st bo nr hist
  have hm := (Sys.routed_member hi op hx).1
  exact ⟨hm, hr ▸ (hi.mem_keys x.key).mp (Sys.servers_keys _ hm)⟩

/-- **C02 (removed ⇒ never selected until re-added)**: after `remove u` — whether it succeeded or
    the server was unknown — no later `NextServer()` and no later request (sticky or not) is routed to
    a URL with `u`'s key, along any continuation that does not add that key again. -/
theorem C02_removed_never_selected (v st : Bool) (bo : Nat) (nr : Bool) (hist tail : List Op) (u : URL)
    (hno : ∀ op ∈ tail, ¬ op.upsertsKey u.key) :
    ∀ out ∈ ((reach v st bo nr hist).step (.remove u)).1.outs tail, ∀ x, out.routedTo = some x → x.key ≠ u.key := by
  obtain ⟨hi, _, _, _⟩ := reach_spec v st bo nr hist
  obtain ⟨hinv, href, _⟩ := Sys.remove_spec hi u
  apply Sys.absent_never_routed tail hinv _ hno
  rw [hinv.mem_keys, href]
  simp [Spec.remove]

/-- **C02 (added ⇒ selected within one full rotation)**: after a successful add / update that leaves
    server `u` with positive weight `x`, every run of `W = Σw/gcd` consecutive `NextServer()` calls —
    starting after any number `j` of earlier calls — returns `u`'s stored URL at least once.
    (Corollary of `C01.C01_window`; the pool may have any history.) -/
theorem C02_added_within_rotation (v st : Bool) (bo : Nat) (nr : Bool) (hist : List Op) (u : URL) (w : Option Nat)
    (x : Nat) (hx : 0 < x) (j : Nat) :
    let s1 := ((reach v st bo nr hist).step (.upsert u (w.map Int.ofNat))).1
    s1.bal.weight u.key = some x →
    ∃ out ∈ (s1.applyOps (List.replicate j .next)).outs (List.replicate (C01.W s1.bal.ws) .next),
      ∃ y, out.routedTo = some y ∧ y.key = u.key := by
  intro s1 hw
  obtain ⟨hi, hr, _, _⟩ := reach_spec v st bo nr hist
  have hinv1 : s1.Inv := (Sys.step_spec hi _).1
  have hit : s1.bal.it = It.reset := by
    show ((reach v st bo nr hist).step (.upsert u (w.map Int.ofNat))).1.bal.it = _
    rw [Sys.step_upsert]; exact Sys.upsert_it hi u w
  obtain ⟨i, hik, hk, hwi⟩ := (Pool.weight_some hinv1.bal.view).mp hw
  have hiw : i < s1.bal.ws.length := Nat.lt_of_lt_of_eq hik hinv1.bal.view.len.symm
  rw [Sys.outs_nexts_after j _ hinv1, hit]
  have hmem := window_selects hiw (show 0 < s1.bal.ws[i] from hwi.symm ▸ hx) j
  refine ⟨nextOut s1.servers (.sel i), List.mem_map.mpr ⟨_, hmem, rfl⟩, s1.servers.getD i default, rfl, ?_⟩
  -- the `i`-th stored URL carries the `i`-th key
  have hlen : i < s1.bal.urls.length := by rw [Bal.urls_length, ← Bal.view_keys_length]; exact hik
  rw [← hk, Sys.servers, List.getD_eq_getElem?_getD, List.getElem?_eq_getElem hlen]
  exact (List.getElem_map URL.key).symm

/-- **C02 (an add that fails changes nothing)**: when the rebalancer's meter factory fails for a server
    it has no record of, `UpsertServer` returns the error, the server is not a member (the balancer
    insert is rolled back), the stored URLs and all weights are as before, and the set defined by the
    administration calls is unchanged — so every other theorem applies to histories with failed adds. -/
theorem C02_failed_add_noop (st : Bool) (bo : Nat) (nr : Bool) (hist : List Op) (u : URL) (w : Option Nat)
    (hu : specOf true hist u.key = none) :
    ((reach true st bo nr hist).step (.upsertFailing u w)).2 = .errMeter ∧
    ((reach true st bo nr hist).step (.upsertFailing u w)).1.servers = (reach true st bo nr hist).servers ∧
    ((reach true st bo nr hist).step (.upsertFailing u w)).1.bal.ws = (reach true st bo nr hist).bal.ws ∧
    specOf true (hist ++ [.upsertFailing u w]) = specOf true hist := by
  obtain ⟨hi, hr, hv, _⟩ := reach_spec true st bo nr hist
  have hf : (reach true st bo nr hist).reb.find u.key = none := by
    rw [Reb.find_eq, Pool.find_none, ← Pool.weight_none]
    exact (congrFun ((Sys.spec_reb hv).symm.trans hr) u.key).trans hu
  obtain ⟨b', hfr, e⟩ := Sys.step_meter_fails hi hv hf w
  rw [e]
  refine ⟨rfl, hfr.urls, hfr.ws, ?_⟩
  rw [specOf_append_one]; simp only [specStep, hu]; rfl

/-- **C02 (removing an unknown server fails and changes nothing)**: the whole state is untouched. -/
theorem C02_remove_unknown_noop (v st : Bool) (bo : Nat) (nr : Bool) (hist : List Op) (u : URL)
    (hu : specOf v hist u.key = none) :
    (reach v st bo nr hist).step (.remove u) = (reach v st bo nr hist, .errNotFound) := by
  obtain ⟨hi, hr, _, _⟩ := reach_spec v st bo nr hist
  apply Sys.step_remove_unknown hi
  rw [hi.mem_keys, hr, hu]
  simp

/-- **C02 (empty pool ⇒ error response)**: with no member defined, every request — any cookie, any
    handler — gets the error response, the downstream handler is not called, nothing changes;
    `NextServer()` fails likewise. -/
theorem C02_empty_is_error (v st : Bool) (bo : Nat) (nr : Bool) (hist : List Op) (hz : ∀ k, specOf v hist k = none)
    (cookie : Option Key) (mt : Option Mut) :
    (reach v st bo nr hist).step (.serve cookie mt) = (reach v st bo nr hist, .failed .errNoServers) ∧
    ((reach v st bo nr hist).step .next).2 = .next .errNoServers none := by
  obtain ⟨hi, hr, _, _⟩ := reach_spec v st bo nr hist
  obtain ⟨hrefs, hws⟩ := Sys.bal_nil_of_spec hi (hr ▸ hz)
  generalize reach v st bo nr hist = s at *
  have hnext : next s.bal.ws s.bal.it = (.errNoServers, s.bal.it) := by rw [hws]; rfl
  have hstuck : s.bal.stuckRef s.sticky cookie = none :=
    Bal.stuckRef_none fun _ k _ => by rw [Bal.view_keys_eq_nil.mpr hrefs]; exact List.not_mem_nil
  exact Sys.step_unrouted hi hstuck hnext (fun i hi => by cases hi) mt

/-
Full clause: "an all-zero-weight pool produces an error response instead of a forwarded request",
for every request.  The code does not satisfy it for a request *pinned by a sticky cookie*: the
sticky branch of `ServeHTTP` never consults weights (`C02_zero_is_error_counterexample`; recorded as
known finding `sticky_zero_weight`).  Proved: the clause for every request that is not pinned.
-/
/-- **C02 (all-zero pool ⇒ error response), partial**: when every configured weight is 0, a request
    that is not pinned to a member by a sticky cookie gets the error response, the handler is not
    called and nothing changes; `NextServer()` fails. -/
theorem C02_zero_is_error_partial (v st : Bool) (bo : Nat) (nr : Bool) (hist : List Op)
    (hne : ∃ k, (specOf v hist k).isSome) (hz : ∀ k w, specOf v hist k = some w → w = 0)
    (cookie : Option Key) (mt : Option Mut)
    (hnp : st = true → ∀ k, cookie = some k → specOf v hist k = none) :
    (reach v st bo nr hist).step (.serve cookie mt) = (reach v st bo nr hist, .failed .errAllZero) ∧
    ((reach v st bo nr hist).step .next).2 = .next .errAllZero none := by
  obtain ⟨hi, hr, _, hst⟩ := reach_spec v st bo nr hist
  have hall := Sys.all_zero_of_spec hi (hr ▸ hz)
  have hmem : ∀ k, k ∈ (reach v st bo nr hist).bal.view.keys ↔ (specOf v hist k).isSome :=
    hr ▸ hi.mem_keys
  generalize reach v st bo nr hist = s at *
  have hwne : s.bal.ws ≠ [] := by
    obtain ⟨k, hk⟩ := hne
    have := (hmem k).mpr hk
    intro he
    have hl : s.bal.view.keys.length = 0 := by rw [← hi.bal.view.len]; simp [he]
    rw [List.length_eq_zero_iff.mp hl] at this; cases this
  have hnext : next s.bal.ws s.bal.it = (.errAllZero, s.bal.it) := C01.C01_all_zero_error _ hwne hall _
  have hstuck : s.bal.stuckRef s.sticky cookie = none :=
    Bal.stuckRef_none fun hs k hk => by rw [hmem, hnp (hst ▸ hs) k hk]; simp
  exact Sys.step_unrouted hi hstuck hnext (fun i hi => by cases hi) mt

/-- the witness of the known finding: sticky balancer, one server re-weighted to 0, a request whose
    cookie names it is forwarded (while an unpinned request gets the error) -/
theorem C02_zero_is_error_counterexample :
    let a : URL := ⟨"http", "a", "/", "", ""⟩
    let hist := [Op.upsert a none, Op.upsert a (some 0)]
    specOf false hist a.key = some 0 ∧
    ((reach false true 0 false hist).step (.serve none none)).2 = .failed .errAllZero ∧
    ((reach false true 0 false hist).step (.serve (some a.key) none)).2 = .forwarded a true := by
  decide +kernel

/-- **C02 (the request never carries one of the pool's own URL objects)**: on the `NextServer` path
    and on the sticky path alike, for both front ends. -/
theorem C02_handout_fresh (v st : Bool) (bo : Nat) (nr : Bool) (hist : List Op) (cookie : Option Key)
    (mt : Option Mut) (y : URL) (f : Bool)
    (h : ((reach v st bo nr hist).step (.serve cookie mt)).2 = .forwarded y f) : f = true := by
  obtain ⟨hi, _, _, _⟩ := reach_spec v st bo nr hist
  exact (Sys.routed_member hi (.serve cookie mt) (x := y) (by rw [h]; rfl)).2 y f h

/-- every function a handler could apply to the URL object it was handed is one of the modelled
    rewrites: `Mut.set` overwrites the object with an arbitrary value -/
theorem C02_any_rewrite_is_modelled (f : URL → URL) (u : URL) : ∃ m : Mut, m.apply u = f u :=
  ⟨.set (f u), rfl⟩

/-- **C02 (nothing a downstream handler does to its request alters the pool)**: whatever the handler
    writes to the object it was handed — `mt` ranges over single-field rewrites and over overwriting
    the object with *any* value (`Mut.set v`, i.e. any function of the object,
    `C02_any_rewrite_is_modelled`); the proof uses only that the object is not one of the pool's —
    `Servers()` returns the same URLs (userinfo and query included) as before the request, and
    membership keeps following the administration calls only. -/
theorem C02_downstream_mutation_noop (v st : Bool) (bo : Nat) (nr : Bool) (hist : List Op) (cookie : Option Key)
    (mt : Option Mut) :
    ((reach v st bo nr hist).step (.serve cookie mt)).1.servers = (reach v st bo nr hist).servers ∧
    ∀ k, (k ∈ ((reach v st bo nr hist).step (.serve cookie mt)).1.bal.view.keys ↔ (specOf v hist k).isSome) := by
  obtain ⟨hi, hr, _, _⟩ := reach_spec v st bo nr hist
  obtain ⟨hinv, href, _, hservers⟩ := Sys.serve_spec hi cookie mt
  exact ⟨hservers, (href.trans hr) ▸ hinv.mem_keys⟩

/-! ### non-vacuity: concrete histories exercise the hypotheses -/

private def a : URL := ⟨"http", "h1", "/", "", ""⟩
private def a' : URL := ⟨"http", "h1", "/", "bob", "x=1"⟩   -- same key as `a`, different URL string
private def b : URL := ⟨"https", "h1", "/", "", ""⟩

-- repeated add keeps the first stored URL; removing leaves the other; through the rebalancer as well
example : (reach true true 0 true [.upsert a (some 2), .upsert a' none, .upsert b none, .remove a']).servers = [b] := by decide +kernel
example : specOf true [.upsert a (some 2), .upsert a' none, .upsert b none, .remove a'] b.key = some 1 := by decide +kernel
-- the hypotheses of `C02_added_within_rotation`, `C02_remove_unknown_noop`, `C02_zero_is_error_partial`
example : ((reach false false 0 false [.upsert a (some 2)]).step (.upsert b (some (Int.ofNat 3)))).1.bal.weight b.key = some 3 := by decide +kernel
example : specOf false [.upsert a (some 2)] b.key = none := by decide +kernel
example : (∃ k, (specOf false [.upsert a none, .upsert a (some 0)] k).isSome) ∧
    specOf false [.upsert a none, .upsert a (some 0)] a.key = some 0 := ⟨⟨a.key, by decide +kernel⟩, by decide +kernel⟩
-- a continuation that never adds the removed key again (`C02_removed_never_selected`)
example : ∀ op ∈ [Op.next, Op.serve (some a.key) (some .host), Op.upsert b none, Op.remove a], ¬ op.upsertsKey a.key := by
  intro op h
  simp only [List.mem_cons, List.not_mem_nil, or_false] at h
  rcases h with rfl | rfl | rfl | rfl <;> simp [Op.upsertsKey, a, b, URL.key]
-- a failed add: the hypothesis of `C02_failed_add_noop`, and what the model answers
example : specOf true [.upsert a (some 2)] b.key = none := by decide +kernel
example : ((reach true false 0 true [.upsert a (some 2)]).step (.upsertFailing b none)).2 = .errMeter := by decide +kernel
-- a handler overwriting every field of its URL object leaves the stored URL as it was
example : ((reach true true 0 false [.upsert a' none]).step
    (.serve (some a.key) (some (.set ⟨"evil", "evil", "/evil", "evil", "evil=1"⟩)))).1.servers = [a'] := by decide +kernel
-- a sticky request with a URL-rewriting handler is forwarded on a fresh object
example : ((reach true true 0 false [.upsert a' none]).step (.serve (some a.key) (some .host))).2 = .forwarded a' true := by decide +kernel

end C02
