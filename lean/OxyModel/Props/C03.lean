import OxyModel.Proofs.RateLimit.Refine

/-!
# C03 — a source is never admitted faster than its token-bucket rate allows

Model: `RL.Bucket` / `RL.consumeSet` / `RL.Limiter.serve` (`Model/RateLimit.lean`) over `TTL.Map`
(`Model/TTLMap.lean`).  `tpt = max 1 (period / average)` is the code's integer quantum; "period/average" in
the statement is read as this quantum.

* `C03_bucket_window`, `C03_set_window`: no hypothesis beyond non-decreasing time stamps and a well-formed
  start state; they hold for every history, every sub-interval, every mix of admitted / refused requests.
* `C03_limiter_refines_set`, `C03_limiter_window`: the statement's own conditions — distinct sources within
  the capacity, and `RefillWithinTTL`: every burst refills within the time an idle entry is remembered.
  With the TTL refreshed on every access an entry last used at `t` is forgotten only by an access later
  than `t + 10·⌊maxPeriod/1s⌋ s`; the hypothesis is `burst·tpt ≤ 10·⌊maxPeriod/1s⌋ s` for every rate.
  It cannot be dropped (`C03_hypothesis_needed`), and it fails for every sub-second `maxPeriod`
  (`⌊maxPeriod/1s⌋ = 0`: such an entry is forgotten at the next wall-clock second, `C03_subsecond_forgets`).
-/
namespace C03
open RL TTL

/-- **Single bucket.**  Every history `ops` of `(time, amount, rolled back by the set?)` with
    non-decreasing times, from every well-formed bucket, every `i ≤ j`: the amounts that left in
    `ops[i..j]` are at most `burst + (t_j − t_i)/tpt + 1`. -/
theorem C03_bucket_window (b : Bucket) (t0 : Nat) (hb : b.WF t0)
    (ops : List (Nat × Nat × Bool)) (hs : SortedFrom t0 (ops.map (·.1)))
    (i j : Nat) (hij : i ≤ j) (hj : j < ops.length) :
    windowSum (b.run ops) i j ≤
      b.burst + ((ops.map (·.1)).getD j 0 - (ops.map (·.1)).getD i 0) / b.tpt + 1 := by
  obtain ⟨b', h⟩ := run_steps ops b
  exact steps_window h t0 i j hb hs hij (by rwa [List.length_map])

/-- **Multi-rate set: the bound holds for all rates at once.** -/
theorem C03_set_window (bs : List Bucket) (t0 : Nat) (hwf : ∀ b ∈ bs, b.WF t0)
    (ops : List (Nat × Nat)) (hs : SortedFrom t0 (ops.map (·.1)))
    (i j : Nat) (hij : i ≤ j) (hj : j < ops.length) :
    ∀ b ∈ bs, windowSum (admittedSet bs ops) i j ≤
      b.burst + ((ops.map (·.1)).getD j 0 - (ops.map (·.1)).getD i 0) / b.tpt + 1 := by
  intro b hb
  obtain ⟨b', h⟩ := set_steps ops bs (fun b hb => (hwf b hb).tpt_pos) b hb
  exact steps_window h t0 i j (hwf b hb) hs hij (by rwa [List.length_map])

/-! ### the limiter -/

/-- the statement's conditions on the configuration, as decidable-looking predicates -/
abbrev GoodRates := RL.GoodRates

/-- **Refinement.**  Fresh limiter with default rates `rates` (each accepted by `RateSet.Add`, one per
    period, `RefillWithinTTL`), any interleaved history with non-decreasing time stamps whose distinct
    sources fit the capacity, any source `s`: the decisions for `s` are exactly those of one bucket set
    created full at `s`'s first request and never forgotten.  (Expiry is unobservable.) -/
theorem C03_limiter_refines_set (rates : List Rate) (capacity : Nat) (hg : GoodRates rates)
    (reqs : List Req) (hs : SortedFrom 0 (reqs.map (·.t)))
    (hcap : (reqs.map (·.src)).dedup.length ≤ (Limiter.new rates capacity).sets.capacity) (s : String) :
    (Limiter.new rates capacity).decisionsFor s reqs = refRun rates (opsOf s reqs) := by
  -- a new limiter tracks no source
  have hne : (Limiter.new rates capacity).noEvict reqs :=
    noEvict_of_capacity (reqs.map (·.src)) reqs _ List.nodup_nil (List.nil_subset _)
      (fun r hr => List.mem_map_of_mem hr) hcap
  rw [decisions_eq_entryRun s reqs _ (spares_of_noEvict s reqs _ hne)]
  exact entryRun_none rates hg s _ 0 (sorted_opsOf s reqs 0 hs)

/-- **The bound through the limiter.**  Under the conditions of `C03_limiter_refines_set`, for every
    source, every sub-interval `i ≤ j` of that source's requests and every configured rate `r`:
    admitted amount `≤ r.burst + (t_j − t_i)/tpt(r) + 1`. -/
theorem C03_limiter_window (rates : List Rate) (capacity : Nat) (hg : GoodRates rates)
    (reqs : List Req) (hs : SortedFrom 0 (reqs.map (·.t)))
    (hcap : (reqs.map (·.src)).dedup.length ≤ (Limiter.new rates capacity).sets.capacity) (s : String)
    (i j : Nat) (hij : i ≤ j) (hj : j < (opsOf s reqs).length) :
    ∀ r ∈ rates,
      windowSum (admittedOf ((Limiter.new rates capacity).decisionsFor s reqs) (opsOf s reqs)) i j ≤
        r.burst + (((opsOf s reqs).map (·.1)).getD j 0 - ((opsOf s reqs).map (·.1)).getD i 0) / tptOf r.period r.average + 1 := by
  intro r hr
  rw [C03_limiter_refines_set rates capacity hg reqs hs hcap s]
  have hsorted := sorted_opsOf s reqs 0 hs
  generalize opsOf s reqs = ops at *
  cases ops with
  | nil => simp at hj
  | cons op ops =>
    obtain ⟨t1, n1⟩ := op
    unfold refRun
    rw [admittedOf_runSet]
    have hp : ∀ r ∈ rates, r.period ≠ 0 := fun r hr => (valid_facts r (hg.valid r hr)).1
    have hb : mkBucket r t1 ∈ (BucketSet.new rates t1).buckets := List.mem_map_of_mem hr
    have := C03_set_window (BucketSet.new rates t1).buckets t1
      (matches_wf t1 t1 _ rates (new_matches rates t1 hp) (Nat.le_refl _)) ((t1, n1) :: ops)
      ⟨Nat.le_refl _, hsorted.2⟩ i j hij hj (mkBucket r t1) hb
    rwa [(mkBucket_matches r t1 (hp r hr)).tpt_eq] at this

/-- **`burst ≤ 5 × average` suffices for periods of one second or more** (and at most one token per
    nanosecond, `average ≤ period`, so that `timePerToken` is not clamped): such a rate meets its
    part of `RefillWithinTTL` whatever the other rates of the set are. -/
theorem C03_5x_suffices (rates : List Rate) (r : Rate) (hr : r ∈ rates)
    (h1 : second ≤ r.period) (h2 : 0 < r.average) (h3 : r.average ≤ r.period) (h4 : r.burst ≤ 5 * r.average) :
    r.burst * tptOf r.period r.average ≤ 10 * (maxPeriodOf (rates.map (·.period)) / second) * second := by
  have hmp : r.period ≤ maxPeriodOf (rates.map (·.period)) := maxPeriodOf_ge _ _ (List.mem_map_of_mem hr)
  generalize maxPeriodOf (rates.map (·.period)) = M at hmp ⊢
  have hq : 1 ≤ r.period / r.average := (Nat.le_div_iff_mul_le h2).mpr (Nat.one_mul _ ▸ h3)
  have htpt : tptOf r.period r.average = r.period / r.average := if_neg (Nat.not_lt.mpr hq)
  have hb : r.burst * (r.period / r.average) ≤ 5 * (r.average * (r.period / r.average)) :=
    Nat.mul_assoc .. ▸ Nat.mul_le_mul_right _ h4
  have hmul : r.average * (r.period / r.average) ≤ r.period := Nat.mul_div_le _ _
  have hs : 0 < second := by decide +kernel
  have hk : second ≤ second * (M / second) := Nat.le_mul_of_pos_right _ (Nat.div_pos (Nat.le_trans h1 hmp) hs)
  have hlt : M < second * (M / second) + second := Nat.lt_mul_div_succ M hs
  rw [htpt, Nat.mul_assoc, Nat.mul_comm (M / second) second]
  -- burst·tpt ≤ 5·(average·tpt) ≤ 5·period ≤ 5·M (hb, hmul, hmp), and an `M` of at least a second is less than
  -- twice its whole seconds (hlt, hk): 5·M < 10·(second·⌊M/second⌋)
  omega

/-- the whole set -/
theorem C03_5x_suffices_set (rates : List Rate)
    (h : ∀ r ∈ rates, second ≤ r.period ∧ 0 < r.average ∧ r.average ≤ r.period ∧ r.burst ≤ 5 * r.average) :
    RefillWithinTTL rates :=
  fun r hr => C03_5x_suffices rates r hr (h r hr).1 (h r hr).2.1 (h r hr).2.2.1 (h r hr).2.2.2

/-! ### the hypothesis is needed -/

/-- 1 token/s with burst 20 (`burst·tpt = 20 s > 10 s`): `a` takes 20 at `t = 0`, comes back at
    `t = 11 s`; its entry (expiry second 11) has been forgotten, the new one is full: 40 admitted in
    11 s, bound 32. -/
theorem C03_hypothesis_needed :
    ¬ RefillWithinTTL [⟨second, 1, 20⟩] ∧
    windowSum (admittedOf ((Limiter.new [⟨second, 1, 20⟩] 4).decisionsFor "a"
        [⟨0, "a", 20, ""⟩, ⟨11 * second, "a", 20, ""⟩]) [(0, 20), (11 * second, 20)]) 0 1
      > 20 + (11 * second - 0) / tptOf second 1 + 1 := by
  constructor
  · -- unfolded first: `Decidable` is found for the bounded quantifier, not through the definition
    unfold RefillWithinTTL; decide +kernel
  · decide +kernel

/-- `average ≤ period` (in ns) in `C03_5x_suffices` cannot be dropped: 10^10 tokens/s, burst 5·10^10 = 5 × average,
    period 1 s.  `timePerToken` is clamped to 1 ns, the burst needs 50 s to refill, the entry is kept 10 s:
    10^11 admitted in 11 s against a bound of 5·10^10 + 1.1·10^10 + 1. -/
theorem C03_5x_needs_avg_le_period :
    (⟨second, 10000000000, 50000000000⟩ : Rate).valid = true ∧ second ≤ (⟨second, 10000000000, 50000000000⟩ : Rate).period ∧
    (⟨second, 10000000000, 50000000000⟩ : Rate).burst ≤ 5 * (⟨second, 10000000000, 50000000000⟩ : Rate).average ∧
    ¬ RefillWithinTTL [⟨second, 10000000000, 50000000000⟩] ∧
    windowSum (admittedOf ((Limiter.new [⟨second, 10000000000, 50000000000⟩] 4).decisionsFor "a"
        [⟨0, "a", 50000000000, ""⟩, ⟨11 * second, "a", 50000000000, ""⟩]) [(0, 50000000000), (11 * second, 50000000000)]) 0 1
      > 50000000000 + (11 * second - 0) / tptOf second 10000000000 + 1 := by
  refine ⟨by decide +kernel, by decide +kernel, by decide +kernel, ?_, by decide +kernel⟩
  unfold RefillWithinTTL; decide +kernel

/-- a sub-second `maxPeriod` gives `ttl = 1`: the entry is forgotten as soon as the wall clock shows
    the next second.  10 tokens/s, burst 3: 3 at `0.999 s`, 3 more at `1.000 s`; bound 4. -/
theorem C03_subsecond_forgets :
    windowSum (admittedOf ((Limiter.new [⟨100000000, 1, 3⟩] 4).decisionsFor "a"
        [⟨999000000, "a", 3, ""⟩, ⟨1000000000, "a", 3, ""⟩]) [(999000000, 3), (1000000000, 3)]) 0 1
      > 3 + (1000000000 - 999000000) / tptOf 100000000 1 + 1 := by
  decide +kernel

/-! ### non-vacuity -/
section NonVacuity

-- the defect witness of DESIGN §7 as a configuration: 1/s burst 5 satisfies every hypothesis
example : GoodRates [⟨second, 1, 5⟩] :=
  ⟨by decide +kernel, by decide +kernel, C03_5x_suffices_set _ (by decide +kernel)⟩
-- two rates at once
example : GoodRates [⟨second, 10, 20⟩, ⟨60 * second, 100, 500⟩] :=
  ⟨by decide +kernel, by decide +kernel, C03_5x_suffices_set _ (by decide +kernel)⟩
-- a history within capacity with sorted times, on which the decisions are not all equal
example : SortedFrom 0 (([⟨0, "a", 5, ""⟩, ⟨1, "b", 1, ""⟩, ⟨2, "a", 1, ""⟩] : List Req).map (·.t)) ∧
    (([⟨0, "a", 5, ""⟩, ⟨1, "b", 1, ""⟩, ⟨2, "a", 1, ""⟩] : List Req).map (·.src)).dedup.length
      ≤ (Limiter.new [⟨second, 1, 5⟩] 2).sets.capacity ∧
    (Limiter.new [⟨second, 1, 5⟩] 2).decisionsFor "a" [⟨0, "a", 5, ""⟩, ⟨1, "b", 1, ""⟩, ⟨2, "a", 1, ""⟩]
      = [.ok, .tooMany 1000000000] :=
  ⟨⟨by decide +kernel, by decide +kernel, by decide +kernel, trivial⟩, by decide +kernel, by decide +kernel⟩
-- a well-formed bucket and a history on which the `+ 1` of the bound is attained
example : (⟨1000, 100, 5, 5, 0, 0⟩ : Bucket).WF 99 ∧
    windowSum ((⟨1000, 100, 5, 5, 0, 0⟩ : Bucket).run [(99, 5, false), (100, 1, false)]) 0 1 = 5 + (100 - 99) / 100 + 1 := by
  decide +kernel

-- the bounds on the concrete buckets of `SetProps.lean` (`SortedFrom` has no `Decidable` instance: stated unfolded)
example : windowSum (exFull.run [(99, 5, false), (100, 1, false)]) 0 1 ≤ 5 + (100 - 99) / 100 + 1 :=
  C03_bucket_window exFull 99 (by decide +kernel) [(99, 5, false), (100, 1, false)]
    (show 99 ≤ 99 ∧ 99 ≤ 100 ∧ True from by decide) 0 1
    (by omega) (by simp)
example : windowSum (admittedSet [exFull, exSlow] [(0, 3), (10, 1), (1000, 1)]) 0 2 ≤ 3 + (1000 - 0) / 1000 + 1 :=
  C03_set_window [exFull, exSlow] 0 (by decide +kernel) [(0, 3), (10, 1), (1000, 1)]
    (show 0 ≤ 0 ∧ 0 ≤ 10 ∧ 10 ≤ 1000 ∧ True from by decide) 0 2
    (by omega) (by simp) exSlow (by simp)

end NonVacuity

end C03
