import OxyModel.Proofs.Sticky.SymCipher
import OxyModel.Proofs.Sticky.Balancer
import OxyModel.Proofs.RR.Window

/-!
# C11 — sticky sessions pin and degrade gracefully

Property theorems only (helper lemmas: `OxyModel/Proofs/Sticky`).  Model: `OxyModel/Model/Sticky.lean`
(`Sticky.serve` = `ServeHTTP` of a balancer with a `StickySession`; `Sticky.get` / `Sticky.find` =
`CookieValue.Get` / `FindURL`; `Sticky.readCookie ∘ echoLine ∘ setCookieWire` = the `net/http` cookie wire)
and `OxyModel/Model/StickyURL.lean` (`render` = `URL.String`, `parse` = `url.Parse`).

The hash function and the AEAD are parameters (`E : Env`); collision-freedom on the pool and
`Cipher.Ideal` are explicit hypotheses.  `t0` is the time the cookie was minted, `now` the time it is
presented; `urls` is `Servers()` at that later time — any pool whatsoever that still contains `s`.
-/
namespace C11
open Sticky

/-- what `Request.Cookie` hands to `FindURL` when the client echoes the pair written for value `v` -/
def received (v : Str) : Str := v.filter validCookieValueByte

/-- the explicit hypotheses under which codec `cd` pins server `s` (minted at `t0`, presented at `now`,
    pool `urls`).  Raw: the URL round-trips through `Parse ∘ String` and survives cookie sanitising
    (this is the clause the known finding violates).  Hash: the value survives the wire and does not collide
    on the pool.  AES: ideal AEAD, round trip, expiry fits `int64`, not yet expired.  Fallback: the hypotheses
    of the minting codec `to`, and `from` does not claim the value for another server. -/
def Good (E : Env) (t0 now : Nat) (urls : List URL) (s : URL) : Codec → Prop
  | .raw => RoundTrip s ∧ (render s).all validCookieValueByte = true
  | .hash salt => (E.hash (salt ++ normalized s)).all validCookieValueByte = true ∧
      ∀ u ∈ urls, E.hash (salt ++ normalized u) = E.hash (salt ++ normalized s) → u.key = s.key
  | .aes _ ttl => E.cipher.Ideal ∧ RoundTrip s ∧ Bytes (render s) ∧
      (baseUnixNs + t0 + ttl) / 1000000000 < 2 ^ 63 ∧
      (0 < ttl → baseUnixNs + now ≤ (baseUnixNs + t0 + ttl) / 1000000000 * 1000000000)
  | .fallback frm tgt => Good E t0 now urls s tgt ∧
      ∀ u, find E now frm (received (Sticky.get E t0 tgt s)) urls = some u → u = s

theorem received_of_valid {v : Str} (h : v.all validCookieValueByte = true) : received v = v :=
  List.filter_eq_self.mpr (List.all_eq_true.mp h)

/-! ## pinning -/

/-- **URL round trip** (discharges `RoundTrip`): for every server URL of the shape
    `scheme://[user[:password]@]host[:port][/path][?query]` — lower-case scheme; ANY user / password bytes; host a
    reg-name or a bracketed IP literal, numeric port; ANY path bytes, with or without a consistent `RawPath`
    (`/a%2Fb`); any query free of `#` and control bytes; no fragment — `url.Parse(u.String())` has the scheme, host
    and path of `u`.  (Outside this class — IPv6 zones, fragments, opaque or scheme-less URLs — `RoundTrip u` is
    decidable by evaluation and exercised by the correspondence run.) -/
theorem C11_url_roundtrip (u : URL) (hu : Abs u) : RoundTrip u := roundTrip_abs u hu

/-- **cookie wire**: `Request.Cookie(name)` on the echoed `Set-Cookie` pair returns the minted value minus
    the bytes `sanitizeCookieValue` drops; a value made of valid cookie bytes arrives unchanged. -/
theorem C11_cookie_wire (name v : Str) (hn : isCookieNameValid name = true) :
    (setCookieWire name v).bind (fun w => readCookie name (echoLine name w)) = some (received v) ∧
    (v.all validCookieValueByte = true → received v = v) := by
  refine ⟨?_, received_of_valid⟩
  simp only [setCookieWire, hn, if_true, Option.bind_some]
  exact readCookie_echo name v hn

/-- **C11 round trip, raw codec** — partial: the full statement (`s ∈ urls → find (get s) = s` for every
    valid server URL) is FALSE for `RawValue` when `URL.String()` contains a byte that
    `http.SetCookie` drops (`C11_raw_counterexample`); proved under the hypothesis that it does not. -/
theorem C11_roundtrip_raw_partial (E : Env) (t0 now : Nat) (urls : List URL) (s : URL)
    (hnd : (urls.map URL.key).Nodup) (hs : s ∈ urls) (hrt : RoundTrip s)
    (hsafe : (render s).all validCookieValueByte = true) :
    find E now .raw (received (Sticky.get E t0 .raw s)) urls = some s := by
  simp only [Sticky.get, find, received_of_valid hsafe]
  exact findByURL_render urls s hnd hs hrt

def cexURL : URL := { scheme := ['h', 't', 't', 'p'], host := ['h'], path := ['/', 'p', ';', 'x'] }
def cexSession : Session := ⟨['a', 'f', 'f'], .raw⟩

/-- **known finding** (open): a server whose URL contains `;` is NOT pinned by the raw codec, although it is
    in the pool and its URL round-trips: the cookie the client receives names `http://h/px`. -/
theorem C11_raw_counterexample (E : Env) :
    cexURL ∈ [cexURL] ∧ RoundTrip cexURL ∧
    ∃ w, setCookieWire cexSession.name (Sticky.get E 0 cexSession.codec cexURL) = some w ∧
      getBackend E 0 cexSession (some (echoLine cexSession.name w)) [cexURL] = none := by
  refine ⟨.head _, by decide +kernel, ['h', 't', 't', 'p', ':', '/', '/', 'h', '/', 'p', 'x'], ?_, ?_⟩
  -- once session and codec are unfolded nothing depends on `E`, and the rest is evaluated
  · simp only [cexSession, Sticky.get]
    decide +kernel
  · simp only [getBackend, cexSession, find]
    decide +kernel

theorem C11_roundtrip_hash (E : Env) (t0 now : Nat) (urls : List URL) (s : URL) (salt : Str)
    (hnd : (urls.map URL.key).Nodup) (hs : s ∈ urls) (hg : Good E t0 now urls s (.hash salt)) :
    find E now (.hash salt) (received (Sticky.get E t0 (.hash salt) s)) urls = some s := by
  obtain ⟨hsafe, hinj⟩ := hg
  simp only [Sticky.get, find, received_of_valid hsafe]
  exact find?_of_key URL.key hnd hs (by simp) fun u hu hp => hinj u hu (Eq.symm (by simpa using hp))

theorem C11_roundtrip_aes (E : Env) (t0 now : Nat) (urls : List URL) (s : URL) (k ttl : Nat)
    (hnd : (urls.map URL.key).Nodup) (hs : s ∈ urls) (hg : Good E t0 now urls s (.aes k ttl)) :
    find E now (.aes k ttl) (received (Sticky.get E t0 (.aes k ttl) s)) urls = some s := by
  -- `hfit` and `hlive` speak of `expiry t0 ttl`, written out in `Good`
  obtain ⟨hI, hrt, hb, hfit, hlive⟩ := hg
  have hnotexp : ¬(0 < ttl ∧ expiry t0 ttl * 1000000000 < baseUnixNs + now) := fun h => Nat.not_lt.mpr (hlive h.1) h.2
  rw [received, find_aes_minted E hI t0 now k ttl urls s hb hfit, if_neg hnotexp]
  exact findByURL_render urls s hnd hs hrt

/-- a fallback chain pins whenever its minting codec `to` does and `from` does not steal the value -/
theorem C11_roundtrip_fallback (E : Env) (t0 now : Nat) (urls : List URL) (s : URL) (frm tgt : Codec)
    (hto : find E now tgt (received (Sticky.get E t0 tgt s)) urls = some s)
    (hns : ∀ u, find E now frm (received (Sticky.get E t0 tgt s)) urls = some u → u = s) :
    find E now (.fallback frm tgt) (received (Sticky.get E t0 (.fallback frm tgt) s)) urls = some s := by
  simp only [Sticky.get, find]
  cases hf : find E now frm (received (Sticky.get E t0 tgt s)) urls with
  | none => simpa using hto
  | some u => rw [hns u hf]

/-- **C11 round trip, every codec and chain**: under `Good`, the value minted for `s` finds `s` in every pool
    (with distinct keys — `C11_pool_invariant`) that contains `s`. -/
theorem C11_roundtrip_codec (E : Env) (t0 now : Nat) (urls : List URL) (s : URL)
    (hnd : (urls.map URL.key).Nodup) (hs : s ∈ urls) (cd : Codec) (hg : Good E t0 now urls s cd) :
    find E now cd (received (Sticky.get E t0 cd s)) urls = some s := by
  induction cd with
  | raw => exact C11_roundtrip_raw_partial E t0 now urls s hnd hs hg.1 hg.2
  | hash salt => exact C11_roundtrip_hash E t0 now urls s salt hnd hs hg
  | aes k ttl => exact C11_roundtrip_aes E t0 now urls s k ttl hnd hs hg
  | fallback frm tgt _ ihto => exact C11_roundtrip_fallback E t0 now urls s frm tgt (ihto hg.1) hg.2

/-- **C11 round trip through HTTP**: the cookie `StickBackend` wrote for `s` at `t0`, echoed by the client at
    `now`, makes `GetBackend` return `s` — for every codec and chain, every server URL satisfying `Good`,
    every pool that still contains `s`. -/
theorem C11_roundtrip (E : Env) (ss : Session) (hname : isCookieNameValid ss.name = true) (t0 now : Nat)
    (urls : List URL) (s : URL) (hnd : (urls.map URL.key).Nodup) (hs : s ∈ urls)
    (hg : Good E t0 now urls s ss.codec) (w : Str)
    (hw : setCookieWire ss.name (Sticky.get E t0 ss.codec s) = some w) :
    getBackend E now ss (some (echoLine ss.name w)) urls = some s := by
  rw [getBackend_echo E now hname urls hw]
  exact C11_roundtrip_codec E t0 now urls s hnd hs ss.codec hg

/-- **key rotation** `FallbackValue{from: AES(k₁), to: AES(k₂)}`: the no-steal hypothesis follows from the
    ideal AEAD, so a cookie minted under the new key pins. -/
theorem C11_key_rotation (E : Env) (t0 now : Nat) (urls : List URL) (s : URL) (k1 ttl1 k2 ttl2 : Nat)
    (hk : k1 ≠ k2) (hg : Good E t0 now urls s (.aes k2 ttl2)) :
    Good E t0 now urls s (.fallback (.aes k1 ttl1) (.aes k2 ttl2)) := by
  refine ⟨hg, fun u hu => ?_⟩
  obtain ⟨hI, _, hb, _, _⟩ := hg
  -- the cookie sealed under `k2` passes the wire unchanged and does not open under `k1`
  rw [get_aes, received, hI.filter_box _ _ (bytes_aesPlain hb t0 ttl2)] at hu
  simp [find, hI.key_sep k2 k1 _ _ (Ne.symm hk)] at hu

/-- **pinned regardless of rotation state and weights**: for ANY balancer state `lb` over the pool (any
    weights, zero included, any iterator position) the request carrying the cookie is forwarded to `s`,
    no new cookie is set, and the iterator is not advanced. -/
theorem C11_pinned_regardless_of_rotation (E : Env) (ss : Session) (hname : isCookieNameValid ss.name = true)
    (t0 now : Nat) (lb : LB) (s : URL) (hnd : (lb.urls.map URL.key).Nodup) (hs : s ∈ lb.urls)
    (hg : Good E t0 now lb.urls s ss.codec) (w : Str)
    (hw : setCookieWire ss.name (Sticky.get E t0 ss.codec s) = some w) :
    serve E now ss lb (some (echoLine ss.name w)) = (lb, .served s none) :=
  serve_stuck (C11_roundtrip E ss hname t0 now lb.urls s hnd hs hg w hw)

/-! ## never outside the pool -/

/-- `FindURL` returns a current member or nothing — every codec, every cookie value -/
theorem C11_never_outside_pool (E : Env) (now : Nat) (cd : Codec) (v : Str) (urls : List URL) (u : URL)
    (h : find E now cd v urls = some u) : u ∈ urls := by
  induction cd with
  | raw => exact findByURL_mem v urls u h
  | hash salt => exact List.mem_of_find?_eq_some h
  | aes k ttl =>
    simp only [find] at h
    cases hu : E.cipher.unbox k v with
    | none => rw [hu] at h; cases h
    | some p =>
      rw [hu] at h
      cases hc : checkTTL now ttl p with
      | none => simp only [hc] at h; cases h
      | some r => simp only [hc] at h; exact findByURL_mem r urls u h
  | fallback frm tgt ihf iht =>
    simp only [find] at h
    cases hf : find E now frm v urls with
    | none => rw [hf] at h; exact iht h
    | some x => rw [hf] at h; cases h; exact ihf hf

/-- every forwarded request goes to a current member: sticky path and balanced path alike, any header -/
theorem C11_served_in_pool (E : Env) (now : Nat) (ss : Session) (lb : LB) (hdr : Option Str) (u : URL)
    (set : Option Str) (h : (serve E now ss lb hdr).2 = .served u set) : u ∈ lb.urls := by
  rcases served_cases h with ⟨hb, _⟩ | ⟨i, hx, _⟩
  · unfold getBackend at hb
    split at hb
    · cases hb
    · split at hb
      · cases hb
      · exact C11_never_outside_pool E now ss.codec _ lb.urls u hb
  · exact List.mem_of_getElem? hx

/-- a cookie naming a server that is no longer in the pool never routes to it -/
theorem C11_stale (E : Env) (now : Nat) (cd : Codec) (v : Str) (urls : List URL) (s : URL) (hs : s ∉ urls) :
    find E now cd v urls ≠ some s :=
  fun h => hs (C11_never_outside_pool E now cd v urls s h)

/-! ## bad cookies are not found -/

/-- absent or unreadable cookie (no header, other name, invalid value byte) -/
theorem C11_absent_or_malformed (E : Env) (now : Nat) (ss : Session) (urls : List URL) :
    getBackend E now ss none urls = none ∧
    (∀ line, readCookie ss.name line = none → getBackend E now ss (some line) urls = none) ∧
    (∀ v, parse v = none → find E now .raw v urls = none) ∧
    (∀ k ttl v, E.cipher.unbox k v = none → find E now (.aes k ttl) v urls = none) := by
  refine ⟨rfl, ?_, ?_, ?_⟩
  · intro line h; simp [getBackend, h]
  · intro v h; simp [find, findByURL, h]
  · intro k ttl v h; simp [find, h]

/-- forged: only (an encoding of) a cookie minted under the session key is honoured — whatever `FindURL` accepts
    opens under `k` and no key tells it apart from a minted cookie (`Cipher.same`: base64 decoding is not strict,
    so this is not string equality); a cookie minted under another key is not found. -/
theorem C11_forged (E : Env) (hI : E.cipher.Ideal) (now : Nat) (k ttl : Nat) (urls : List URL) :
    (∀ v u, find E now (.aes k ttl) v urls = some u →
      ∃ n m, E.cipher.unbox k v = some m ∧ E.cipher.same v (E.cipher.box k n m)) ∧
    (∀ k' n m, k' ≠ k → find E now (.aes k ttl) (E.cipher.box k' n m) urls = none) := by
  constructor
  · intro v u hf
    cases hu : E.cipher.unbox k v with
    | none => simp [find, hu] at hf
    | some p => obtain ⟨n, e⟩ := hI.authentic k v p hu; exact ⟨n, p, rfl, e⟩
  · intro k' n m hk
    simp [find, hI.key_sep k' k n m hk]

/-- expired: a genuine cookie whose embedded expiry `e` (unix seconds) lies before `now` is not found -/
theorem C11_expired (E : Env) (hI : E.cipher.Ideal) (now k ttl n e : Nat) (r : Str) (urls : List URL)
    (httl : 0 < ttl) (he : e < 2 ^ 63) (hb : Bytes r) (hexp : e * 1000000000 < baseUnixNs + now) :
    find E now (.aes k ttl) (E.cipher.box k n (r ++ '|' :: decimal e)) urls = none := by
  have hbytes := bytes_append_expiry hb e
  simp only [find, hI.unbox_box k n _ hbytes, checkTTL_minted now ttl e r httl he, if_pos hexp]

/-! ## graceful degradation -/

/-- **degrades**: whenever the cookie does not name a current member (`GetBackend` finds nothing — absent,
    malformed, forged, expired, stale: the theorems above), the request is balanced exactly like a request
    without sticky sessions (`RR.next`, the C01 iterator), it is not rejected as long as some member has
    positive weight, it goes to a member of positive weight, and it receives a fresh cookie minted for the
    chosen server. -/
theorem C11_degrades (E : Env) (now : Nat) (ss : Session) (lb : LB) (hdr : Option Str)
    (hbad : getBackend E now ss hdr lb.urls = none)
    (hw : ∃ w ∈ lb.ws, 0 < w) (hit : ∃ j, lb.it = RR.after lb.ws j RR.It.reset) :
    ∃ i u, (RR.next lb.ws lb.it).1 = .sel i ∧ lb.urls[i]? = some u ∧ 0 < lb.ws.getD i 0 ∧
      serve E now ss lb hdr =
        ({ lb with it := (RR.next lb.ws lb.it).2 }, .served u (setCookieWire ss.name (Sticky.get E now ss.codec u))) := by
  obtain ⟨j, hj⟩ := hit
  obtain ⟨i, s', hn, hlt, hpos⟩ := RR.next_after_sel lb.ws hw j
  have hi : (RR.next lb.ws lb.it).1 = .sel i := by rw [hj, hn]
  have hlen : i < lb.urls.length := by simpa [LB.urls, LB.ws] using hlt
  refine ⟨i, lb.urls[i], hi, List.getElem?_eq_getElem hlen, hpos, ?_⟩
  simp only [serve_balanced hbad, hi, List.getElem?_eq_getElem hlen]

/-- **the fresh cookie pins**: the cookie handed out on the degraded path at `t0`, presented at `now` to ANY
    later state of the balancer (any sequence of pool changes in between) in which the chosen server is still
    a member, routes to that server. -/
theorem C11_fresh_cookie_pins (E : Env) (ss : Session) (hname : isCookieNameValid ss.name = true) (t0 now : Nat)
    (lb lb1 lb2 : LB) (hdr : Option Str) (u : URL) (w : Str)
    (h1 : serve E t0 ss lb hdr = (lb1, .served u (some w)))
    (hnd : (lb2.urls.map URL.key).Nodup) (hu : u ∈ lb2.urls) (hg : Good E t0 now lb2.urls u ss.codec) :
    serve E now ss lb2 (some (echoLine ss.name w)) = (lb2, .served u none) := by
  rcases served_cases (congrArg Prod.snd h1) with ⟨_, h⟩ | ⟨_, _, hw⟩
  · cases h
  · exact C11_pinned_regardless_of_rotation E ss hname t0 now lb2 u hnd hu hg w hw.symm

/-- the explicit hypotheses under which the cookie of a server that LEFT the pool finds nothing: as `Good`, with
    "no collision with a member" for the hash and "`from` finds nothing either" for a chain (no liveness needed:
    an expired cookie finds nothing anyway) -/
def Unfound (E : Env) (t0 now : Nat) (urls : List URL) (s : URL) : Codec → Prop
  | .raw => RoundTrip s ∧ (render s).all validCookieValueByte = true
  | .hash salt => (E.hash (salt ++ normalized s)).all validCookieValueByte = true ∧
      ∀ u ∈ urls, E.hash (salt ++ normalized u) ≠ E.hash (salt ++ normalized s)
  | .aes _ ttl => E.cipher.Ideal ∧ RoundTrip s ∧ Bytes (render s) ∧ (baseUnixNs + t0 + ttl) / 1000000000 < 2 ^ 63
  | .fallback frm tgt => Unfound E t0 now urls s tgt ∧
      find E now frm (received (Sticky.get E t0 tgt s)) urls = none

/-- **stale cookie finds nothing**: the cookie minted for `s`, presented to a pool none of whose members has the
    key of `s` (it was removed; whatever else changed), makes `FindURL` return nothing — every codec and chain. -/
theorem C11_stale_none (E : Env) (t0 now : Nat) (urls : List URL) (s : URL)
    (hgone : ∀ u ∈ urls, u.key ≠ s.key) (cd : Codec) (hg : Unfound E t0 now urls s cd) :
    find E now cd (received (Sticky.get E t0 cd s)) urls = none := by
  induction cd with
  | raw =>
    simp only [Sticky.get, find, received_of_valid hg.2]
    exact findByURL_gone urls s hg.1 hgone
  | hash salt =>
    simp only [Sticky.get, find, received_of_valid hg.1]
    rw [List.find?_eq_none]
    intro u hu hp
    have hp' : E.hash (salt ++ normalized s) = E.hash (salt ++ normalized u) := by simpa using hp
    exact hg.2 u hu hp'.symm
  | aes k ttl =>
    obtain ⟨hI, hrt, hb, hfit⟩ := hg
    rw [received, find_aes_minted E hI t0 now k ttl urls s hb hfit]
    split
    · rfl
    · exact findByURL_gone urls s hrt hgone
  | fallback frm tgt _ iht =>
    simp only [Sticky.get, find, hg.2, iht hg.1]

/-- **stale cookie ⇒ rebalanced**: a request carrying the cookie issued for a server that is no longer in the pool is
    balanced exactly like a request without sticky sessions among the current members (`RR.next`), is not rejected
    while some member has positive weight, goes to a member of positive weight and receives a fresh cookie minted
    for the server chosen. -/
theorem C11_stale_rebalanced (E : Env) (ss : Session) (hname : isCookieNameValid ss.name = true) (t0 now : Nat)
    (lb : LB) (s : URL) (hgone : ∀ u ∈ lb.urls, u.key ≠ s.key) (hg : Unfound E t0 now lb.urls s ss.codec)
    (w : Str) (hw : setCookieWire ss.name (Sticky.get E t0 ss.codec s) = some w)
    (hpos : ∃ x ∈ lb.ws, 0 < x) (hit : ∃ j, lb.it = RR.after lb.ws j RR.It.reset) :
    ∃ i u, (RR.next lb.ws lb.it).1 = .sel i ∧ lb.urls[i]? = some u ∧ 0 < lb.ws.getD i 0 ∧
      serve E now ss lb (some (echoLine ss.name w)) =
        ({ lb with it := (RR.next lb.ws lb.it).2 }, .served u (setCookieWire ss.name (Sticky.get E now ss.codec u))) := by
  apply C11_degrades E now ss lb _ _ hpos hit
  rw [getBackend_echo E now hname lb.urls hw]
  exact C11_stale_none E t0 now lb.urls s hgone ss.codec hg

/-- **no steal, `from` = raw**: `RawValue.FindURL` never claims a value without `:` (a hex hash, a base64 AES cookie)
    when every member has a scheme — the no-steal conjunct of `Good (.fallback .raw tgt)` for such values. -/
theorem C11_no_steal_raw (E : Env) (now : Nat) (v : Str) (urls : List URL) (hc : ':' ∉ v)
    (hs : ∀ u ∈ urls, u.scheme ≠ []) : find E now .raw v urls = none :=
  findByURL_no_colon v urls hc hs

/-! ## every sequence of pool changes -/

/-- balancer states reachable by any history of `UpsertServer`, `RemoveServer` and requests -/
inductive Reach : LB → Prop where
  | empty : Reach LB.empty
  | upsert {lb : LB} (u : URL) (w : Option Nat) : Reach lb → Reach (lb.upsert u w)
  | remove {lb lb' : LB} (u : URL) : Reach lb → lb.remove u = some lb' → Reach lb'
  | serve {lb : LB} (E : Env) (now : Nat) (ss : Session) (hdr : Option Str) : Reach lb → Reach (serve E now ss lb hdr).1

/-- **every history**: after ANY sequence of `UpsertServer` / `RemoveServer` / requests (stuck or not, any
    cookies, any codec, any clock) the pool has pairwise distinct keys and the iterator is a position of the
    C01 orbit — the side conditions of the theorems above hold in every reachable state. -/
theorem C11_pool_invariant (lb : LB) (h : Reach lb) :
    (lb.urls.map URL.key).Nodup ∧ ∃ j, lb.it = RR.after lb.ws j RR.It.reset := by
  induction h with
  | empty => exact ⟨by simp [LB.urls, LB.empty], 0, rfl⟩
  | upsert u w _ ih =>
    -- `UpsertServer` and `RemoveServer` store `It.reset`: position 0 of the orbit
    rw [keys_urls] at ih ⊢
    exact ⟨nodup_upsertL u w _ ih.1, 0, rfl⟩
  | @remove lb lb' u _ hr ih =>
    obtain ⟨l, hl, rfl⟩ := Option.map_eq_some_iff.mp hr
    rw [keys_urls] at ih ⊢
    exact ⟨nodup_removeL u.key lb.srvs l hl ih.1, 0, rfl⟩
  | @serve lb E now ss hdr _ ih =>
    obtain ⟨hn, j, hj⟩ := ih
    have hstep : (RR.next lb.ws lb.it).2 = RR.after lb.ws (j + 1) RR.It.reset := by
      rw [RR.after_add lb.ws j 1, ← hj]; rfl
    cases hb : getBackend E now ss hdr lb.urls with
    | some x => rw [serve_stuck hb]; exact ⟨hn, j, hj⟩
    | none => rw [serve_balanced hb]; exact ⟨hn, j + 1, hstep⟩

private theorem reach_reset (recs : List (URL × Nat)) : ∀ lb, Reach lb → Reach (RB.reset lb recs) := by
  induction recs with
  | nil => intro lb h; exact h
  | cons r t ih => intro lb h; exact ih _ (.upsert r.1 (some r.2) h)

/-- **behind a rebalancer**: `Rebalancer.UpsertServer` / `RemoveServer` (own records, `reset()` re-registering every
    record) are sequences of upserts / removes of the wrapped balancer, whose `Servers()` the sticky lookup uses — also
    when servers are registered on the wrapped balancer directly.  So every theorem above holds for the rebalancer
    front end (with healthy backends: no weight is re-rated). -/
theorem C11_rebalancer_admin (rb : RB) (h : Reach rb.lb) :
    (∀ u w, Reach (rb.upsert u w).lb) ∧ (∀ u rb', rb.remove u = some rb' → Reach rb'.lb) := by
  constructor
  · intro u w
    unfold RB.upsert
    exact reach_reset _ _ (.upsert u _ h)
  · intro u rb' hr
    unfold RB.remove at hr
    split at hr
    · cases hr
    · split at hr
      · cases hr
      · next lb1 hl =>
        cases hr
        exact reach_reset _ _ (.remove u h hl)

/-! ## non-vacuity: concrete servers, pools and sessions satisfy the hypotheses -/

def exA : URL := { scheme := ['h', 't', 't', 'p'], user := some (['u'], some ['p']), host := ['h', '1', ':', '8', '0'],
                   path := ['/', 'a', ' ', 'b'], rawQuery := ['q', '=', '1', '|', '2'] }
def exB : URL := { scheme := ['h', 't', 't', 'p', 's'], host := ['h', '2'], path := ['/', 'p', ';', 'x', '|', 'y'] }
def exPool : List URL := [exB, exA]
def exName : Str := ['a', 'f', 'f']
def exLB : LB := (LB.empty.upsert exB (some 0)).upsert exA (some 3)

-- both are `Abs`: `exA` has userinfo, a port, a space in the path and `|` in the query; `exB` has `;` and `|` in the path;
-- `exC` is a bracketed IPv6 host with a `RawPath` (`/a%2Fb`) and a forced empty query
def exC : URL := { scheme := ['h', 't', 't', 'p'], host := ['[', ':', ':', '1', ']', ':', '8', '0'], path := ['/', 'a', '/', 'b'],
                   rawPath := ['/', 'a', '%', '2', 'F', 'b'], forceQuery := true }
private theorem exA_abs : Abs exA :=
  { scheme := ⟨'h', ['t', 't', 'p'], rfl, by decide +kernel, by decide +kernel⟩
    user := by unfold UserOK Bytes exA; decide +kernel
    host := ⟨['h', '1'], [':', '8', '0'], rfl, Or.inr ⟨['8', '0'], rfl, by decide +kernel⟩, Or.inl ⟨by decide +kernel, by decide +kernel⟩⟩
    path := Or.inl ⟨rfl, Or.inr rfl, by unfold Bytes exA; decide +kernel⟩
    query := by decide +kernel, noOpaq := rfl, noOmit := rfl, noFrag := rfl }
private theorem exB_abs : Abs exB :=
  { scheme := ⟨'h', ['t', 't', 'p', 's'], rfl, by decide +kernel, by decide +kernel⟩
    user := trivial
    host := ⟨['h', '2'], [], rfl, Or.inl rfl, Or.inl ⟨by decide +kernel, by decide +kernel⟩⟩
    path := Or.inl ⟨rfl, Or.inr rfl, by unfold Bytes exB; decide +kernel⟩
    query := by decide +kernel, noOpaq := rfl, noOmit := rfl, noFrag := rfl }
example : Abs exA := exA_abs
example : Abs exB := exB_abs
example : Abs exC :=
  { scheme := ⟨'h', ['t', 't', 'p'], rfl, by decide +kernel, by decide +kernel⟩
    user := trivial
    host := ⟨['[', ':', ':', '1', ']'], [':', '8', '0'], rfl, Or.inr ⟨['8', '0'], rfl, by decide +kernel⟩,
      Or.inr ⟨[':', ':', '1'], rfl, by decide +kernel⟩⟩
    path := Or.inr ⟨by decide +kernel, by decide +kernel, by decide +kernel, by decide +kernel⟩
    query := by decide +kernel, noOpaq := rfl, noOmit := rfl, noFrag := rfl }
example : render exC = ['h','t','t','p',':','/','/','[',':',':','1',']',':','8','0','/','a','%','2','F','b','?'] := by decide +kernel
private theorem exA_roundTrip : RoundTrip exA := C11_url_roundtrip exA exA_abs
private theorem exB_roundTrip : RoundTrip exB := C11_url_roundtrip exB exB_abs
private theorem exA_safe : (render exA).all validCookieValueByte = true := by decide +kernel
private theorem exA_bytes : Bytes (render exA) := by unfold Bytes; decide +kernel
private theorem exA_hash : Good stdEnv 0 7 exPool exA (.hash ['s']) := ⟨by decide +kernel, by decide +kernel⟩
example : RoundTrip exA ∧ RoundTrip exB := ⟨exA_roundTrip, exB_roundTrip⟩
example : render exA = ['h', 't', 't', 'p', ':', '/', '/', 'u', ':', 'p', '@', 'h', '1', ':', '8', '0', '/', 'a', '%', '2', '0', 'b', '?', 'q', '=', '1', '|', '2'] := by decide +kernel  -- http://u:p@h1:80/a%20b?q=1|2
example : (exPool.map URL.key).Nodup ∧ exA ∈ exPool := by decide +kernel
example : isCookieNameValid exName = true := by decide +kernel
example : Reach exLB := .upsert _ _ (.upsert _ _ .empty)
example : exLB.urls = exPool ∧ exLB.ws = [1, 3] := by decide +kernel

-- the hypotheses `Good` of every codec are satisfiable with the driver's instances (FNV-1a, symbolic AEAD)
example : stdEnv.cipher.Ideal := symCipher_ideal
example : Good stdEnv 0 7 exPool exA .raw := ⟨exA_roundTrip, exA_safe⟩
example : ¬ Good stdEnv 0 7 exPool exB .raw := fun h => absurd h.2 (by decide +kernel)   -- the `;` of the known finding
example : Good stdEnv 0 7 exPool exA (.hash ['s']) ∧ Good stdEnv 0 7 exPool exB (.hash ['s']) := by
  exact ⟨exA_hash, by decide +kernel, by decide +kernel⟩
example : Good stdEnv 0 4999999999 exPool exB (.aes 1 5000000000) :=
  ⟨symCipher_ideal, exB_roundTrip, by unfold Bytes; decide +kernel, by decide +kernel, by decide +kernel⟩
example : Good stdEnv 0 0 exPool exA (.fallback (.aes 1 0) (.aes 2 60000000000)) :=
  C11_key_rotation stdEnv 0 0 exPool exA 1 0 2 60000000000 (by decide +kernel)
    ⟨symCipher_ideal, exA_roundTrip, exA_bytes, by decide +kernel, by decide +kernel⟩
example : Good stdEnv 0 7 exPool exA (.fallback (.hash ['s']) .raw) := by
  refine ⟨⟨exA_roundTrip, exA_safe⟩, ?_⟩
  intro u h
  rw [show find stdEnv 7 (.hash ['s']) (received (Sticky.get stdEnv 0 .raw exA)) exPool = none by decide +kernel] at h
  cases h

-- the conclusions, evaluated: a session against `exLB` (weights 1 and 3: the first balanced pick is `exA`)
example : serve stdEnv 0 ⟨exName, .hash ['s']⟩ exLB none =
    (⟨exLB.srvs, ⟨2, 3⟩⟩, .served exA (some ['f', '9', 'b', '5', 'a', '3', 'f', '5', '0', '3', '9', 'f', '5', 'd', '7', '4'])) := by decide +kernel  -- f9b5a3f5039f5d74
example : serve stdEnv 9 ⟨exName, .hash ['s']⟩ (exLB.upsert exB (some 100)) (some ['a', 'f', 'f', '=', 'f', '9', 'b', '5', 'a', '3', 'f', '5', '0', '3', '9', 'f', '5', 'd', '7', '4']) =
    (exLB.upsert exB (some 100), .served exA none) := by decide +kernel
-- raw codec and the `;` server: the client gets `https://h2/px%7Cy`, which names nobody, so the next request is balanced again
example : setCookieWire exName (Sticky.get stdEnv 0 .raw exB) = some ['h', 't', 't', 'p', 's', ':', '/', '/', 'h', '2', '/', 'p', 'x', '%', '7', 'C', 'y'] := by decide +kernel
example : getBackend stdEnv 0 ⟨exName, .raw⟩ (some ['a', 'f', 'f', '=', 'h', 't', 't', 'p', 's', ':', '/', '/', 'h', '2', '/', 'p', 'x', '%', '7', 'C', 'y']) exPool = none := by decide +kernel
-- forged / expired / foreign key, with the symbolic cipher
example : find stdEnv 0 (.aes 1 0) ['f', 'o', 'r', 'g', 'e', 'd'] exPool = none := by decide +kernel
example : 1577836805 * 1000000000 < baseUnixNs + 5000000001 := by decide +kernel
example : find stdEnv 5000000001 (.aes 1 5000000000) (Sticky.get stdEnv 0 (.aes 1 5000000000) exB) exPool = none ∧
    find stdEnv 5000000000 (.aes 1 5000000000) (Sticky.get stdEnv 0 (.aes 1 5000000000) exB) exPool = some exB := by decide +kernel
-- a server that left: `exA` is not in `[exB]`; its cookies (raw, hash, aes, a chain) find nothing there
example : (∀ u ∈ [exB], u.key ≠ exA.key) ∧ Unfound stdEnv 0 7 [exB] exA (.fallback (.hash ['s']) .raw) :=
  ⟨by decide +kernel, ⟨exA_roundTrip, exA_safe⟩, by decide +kernel⟩
example : Unfound stdEnv 0 7 [exB] exA (.hash ['s']) ∧ Unfound stdEnv 0 7 [exB] exA (.aes 1 5000000000) :=
  ⟨⟨exA_hash.1, by decide +kernel⟩, symCipher_ideal, exA_roundTrip, exA_bytes, by decide +kernel⟩
-- no-steal for `from` = raw, discharged by `C11_no_steal_raw`: an FNV hex value has no `:`, every member has a scheme
example : Good stdEnv 0 7 exPool exA (.fallback .raw (.hash ['s'])) := by
  refine ⟨exA_hash, ?_⟩
  intro u h
  rw [C11_no_steal_raw stdEnv 7 _ exPool (by decide +kernel) (by decide +kernel)] at h
  cases h
-- degraded request on a reachable balancer with a positive weight
example : (∃ w ∈ exLB.ws, 0 < w) ∧ ∃ j, exLB.it = RR.after exLB.ws j RR.It.reset := ⟨⟨1, by decide +kernel, by decide +kernel⟩, 0, rfl⟩

end C11
