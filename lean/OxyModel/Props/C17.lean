import OxyModel.Proofs.Counter.Ratio
import OxyModel.Proofs.Counter.Clone

/-!
# C17 — rolling counters count the recent window

Property theorems only (helper lemmas live in `OxyModel/Proofs/Counter`).  The model is
`OxyModel/Model/Counter.lean`: `RCnt.inc` / `RCnt.count` / `RCnt.reset` are `RollingCounter.Inc` /
`Count` / `Reset`, `RCnt.run c h` is a fresh counter after the timed history `h` of increments, reads
and resets, `RCnt.Ratio.*` is `RatioCounter`.  Clock readings are ns since Go's zero `Time`.

`incs h` is the list `(time, value)` of the increments made since the last `Reset`;
`sumIf p log` is the sum of the logged values whose time stamp satisfies `p`.
-/
namespace C17
open RCnt

/-- the configurations `NewCounter` / `NewRatioCounter` accept: at least one bucket, a resolution of
    one second or more (any number of ns, not necessarily whole seconds) -/
structure Accepted (c : Cfg) : Prop where
  buckets : 0 < c.n
  resolution : second ≤ c.r

/-- the clock of a history followed by a read at `now`: time stamps never decrease, the read is not
    before the last event, and every reading is at least one window after 1970-01-01 (before that
    `UnixNano()` is negative and the real `getBucket` indexes out of range) -/
structure Timeline (c : Cfg) (times : List Nat) (now : Nat) : Prop where
  sorted : List.Pairwise (· ≤ ·) times
  now_last : ∀ t ∈ times, t ≤ now
  after1970 : ∀ t ∈ times, unixEpochNs + c.n * c.r ≤ t
  now_after1970 : unixEpochNs + c.n * c.r ≤ now

/-- the event is an increment by a non-negative amount, or not an increment -/
def nonnegEv : Ev → Bool
  | .inc v => decide (0 ≤ v)
  | _ => true

def isInc : Ev → Bool
  | .inc _ => true
  | _ => false

def isIncR : REv → Bool
  | .incA _ => true
  | .incB _ => true
  | _ => false

/-- all increments of the history are non-negative -/
def NonNeg (h : List (Nat × Ev)) : Prop := ∀ e ∈ h, nonnegEv e.2 = true

private theorem good {c : Cfg} (hc : Accepted c) : Good c c.off :=
  good_off c hc.buckets (Nat.lt_of_lt_of_le (by decide : 0 < second) hc.resolution)

/-- **C17 (constructor)**: `NewCounter` accepts exactly `buckets > 0 ∧ resolution ≥ 1 s`, and then
    the counter has that many buckets and that resolution. -/
theorem C17_constructor (buckets resolution : Int) :
    (0 < buckets ∧ (second : Int) ≤ resolution →
      ∃ c, newCounter buckets resolution = .ok c ∧ Accepted c ∧ (c.n : Int) = buckets ∧ (c.r : Int) = resolution) ∧
    (buckets ≤ 0 → newCounter buckets resolution = .error .buckets) ∧
    (0 < buckets → resolution < (second : Int) → newCounter buckets resolution = .error .resolution) := by
  refine ⟨fun ⟨h1, h2⟩ => ?_, fun h => ?_, fun h1 h2 => ?_⟩
  · have hr0 : 0 ≤ resolution := Int.le_trans (Int.natCast_nonneg _) h2
    refine ⟨⟨buckets.toNat, resolution.toNat⟩, ?_, ⟨Int.pos_iff_toNat_pos.mp h1, (Int.le_toNat hr0).mpr h2⟩,
      Int.toNat_of_nonneg (Int.le_of_lt h1), Int.toNat_of_nonneg hr0⟩
    unfold newCounter
    rw [if_neg (Int.not_le.mpr h1), if_neg (Int.not_lt.mpr h2)]
  · unfold newCounter; rw [if_pos h]
  · unfold newCounter; rw [if_neg (Int.not_le.mpr h1), if_pos h2]

/-- **C17 (exact window)**: after every history of increments, reads, resets and idle gaps, a read
    returns exactly the sum of the increments (since the last reset) whose slot `⌊u / r⌋` is among
    the last `n` slots `⌊now / r⌋ - n + 1 … ⌊now / r⌋`.  Increments may be negative. -/
theorem C17_exact (c : Cfg) (hc : Accepted c) (h : List (Nat × Ev)) (now : Nat)
    (ht : Timeline c (h.map Prod.fst) now) :
    (count c (run c h) now).2 = sumIf (fun u => now / c.r < u / c.r + c.n) (incs h) :=
  (run_holds (good hc) h now ht.sorted ht.after1970 ht.now_last).count (good hc)
    (Nat.le_refl _) ht.now_after1970

private theorem incs_nonneg {h : List (Nat × Ev)} (hv : NonNeg h) : ∀ e ∈ incs h, 0 ≤ e.2 :=
  fun _ he => of_decide_eq_true (hv _ (mem_incs he))

/-- **C17 (lower bound: recent events are never lost)**: with non-negative increments a read reports
    at least the sum of all increments made within the last `(n-1)·r`. -/
theorem C17_lower (c : Cfg) (hc : Accepted c) (h : List (Nat × Ev)) (now : Nat)
    (ht : Timeline c (h.map Prod.fst) now) (hv : NonNeg h) :
    sumIf (fun u => now ≤ u + (c.n - 1) * c.r) (incs h) ≤ (count c (run c h) now).2 := by
  rw [C17_exact c hc h now ht]
  exact sumIf_mono _ (incs_nonneg hv) (fun _ _ hu => slot_of_recent c.n c.r hc.buckets (good hc).r_pos hu)

/-- **C17 (upper bound: old events always age out)**: with non-negative increments a read reports at
    most the sum of all increments made within the last `n·r`. -/
theorem C17_upper (c : Cfg) (hc : Accepted c) (h : List (Nat × Ev)) (now : Nat)
    (ht : Timeline c (h.map Prod.fst) now) (hv : NonNeg h) :
    (count c (run c h) now).2 ≤ sumIf (fun u => now < u + c.n * c.r) (incs h) := by
  rw [C17_exact c hc h now ht]
  exact sumIf_mono _ (incs_nonneg hv) (fun _ _ hu => recent_of_slot c.n c.r (good hc).r_pos hu)

/-- **C17 (ages out)**: once every increment is at least `n·r` old the counter reads 0 (any sign). -/
theorem C17_ages_out (c : Cfg) (hc : Accepted c) (h : List (Nat × Ev)) (now : Nat)
    (ht : Timeline c (h.map Prod.fst) now)
    (hidle : ∀ e ∈ h, isInc e.2 = true → e.1 + c.n * c.r ≤ now) :
    (count c (run c h) now).2 = 0 := by
  rw [C17_exact c hc h now ht]
  exact sumIf_none _ (fun e he => not_slot_of_old c.n c.r (good hc).r_pos (hidle _ (mem_incs he) rfl))

/-- **C17 (ratio)**: after every history of `IncA`, `IncB`, reads and resets, `Ratio()` is the pair
    `a / (a+b)` of the two exact window sums, and `0` (printed `0/0`) when `a + b = 0`. -/
theorem C17_ratio (c : Cfg) (hc : Accepted c) (h : List (Nat × REv)) (now : Nat)
    (ht : Timeline c (h.map Prod.fst) now) :
    ((Ratio.run c h).ratio c now).2 =
      if sumIf (fun u => now / c.r < u / c.r + c.n) (incsA h)
          + sumIf (fun u => now / c.r < u / c.r + c.n) (incsB h) = 0 then (0, 0)
      else (sumIf (fun u => now / c.r < u / c.r + c.n) (incsA h),
            sumIf (fun u => now / c.r < u / c.r + c.n) (incsA h)
              + sumIf (fun u => now / c.r < u / c.r + c.n) (incsB h)) := by
  obtain ⟨ha, hb⟩ := Ratio.run_holds (good hc) h now ht.sorted ht.after1970 ht.now_last
  simp only [Ratio.ratio]
  rw [ha.count (good hc) (Nat.le_refl _) ht.now_after1970, hb.count (good hc) (Nat.le_refl _) ht.now_after1970]

/-- **C17 (ratio, empty)**: when every `IncA`/`IncB` is at least `n·r` old the ratio is 0. -/
theorem C17_ratio_empty (c : Cfg) (hc : Accepted c) (h : List (Nat × REv)) (now : Nat)
    (ht : Timeline c (h.map Prod.fst) now)
    (hidle : ∀ e ∈ h, isIncR e.2 = true → e.1 + c.n * c.r ≤ now) :
    ((Ratio.run c h).ratio c now).2 = (0, 0) := by
  rw [C17_ratio c hc h now ht]
  rw [sumIf_none (incsA h) (fun e he =>
        not_slot_of_old c.n c.r (good hc).r_pos (hidle _ (mem_incsA he) rfl)),
      sumIf_none (incsB h) (fun e he =>
        not_slot_of_old c.n c.r (good hc).r_pos (hidle _ (mem_incsB he) rfl))]
  rfl

/-- **C17 (a clone is independent)**: a live counter and a snapshot taken with `Clone()` are driven by
    an arbitrarily interleaved history `h` of events on either (`Duo.run`).  Then
    (1) the live counter is *exactly* the counter its own history alone produces (`liveHist h`: its own
        events, a read per `Clone()`, snapshot events dropped) — nothing done to the snapshot changes it,
        so its reads are the exact window of its own increments;
    (2) a read of the snapshot is the exact window of the increments the snapshot holds (`snapIncs h`:
        the live counter's up to `Clone()`, then the snapshot's own) — nothing done to the live counter
        afterwards changes it. -/
theorem C17_clone_independent (c : Cfg) (hc : Accepted c) (h : List (Nat × DEv)) (now : Nat)
    (ht : Timeline c (h.map Prod.fst) now) :
    (Duo.run c h).live = run c (liveHist h) ∧
    (count c (Duo.run c h).live now).2
      = sumIf (fun u => now / c.r < u / c.r + c.n) (incs (liveHist h)) ∧
    ∀ s, (Duo.run c h).snap = some s →
      (count c s now).2 = sumIf (fun u => now / c.r < u / c.r + c.n) (snapIncs h) := by
  have hsub := liveHist_sublist h
  have ht' : Timeline c ((liveHist h).map Prod.fst) now :=
    ⟨ht.sorted.sublist hsub, fun t m => ht.now_last t (hsub.subset m),
     fun t m => ht.after1970 t (hsub.subset m), ht.now_after1970⟩
  refine ⟨run_live c h, ?_, fun s hs => ?_⟩
  · rw [run_live c h]; exact C17_exact c hc (liveHist h) now ht'
  · exact ((Duo.run_holds (good hc) h now ht.sorted ht.after1970 ht.now_last).2 s hs).count (good hc) (Nat.le_refl _)
      ht.now_after1970

/-! ### non-vacuity: concrete histories satisfy the hypotheses and the conclusions are not trivial -/

/-- 2020-01-01T00:00:00Z -/
private def T0 : Nat := baseSinceZeroNs
private def s (k : Nat) : Nat := T0 + k * 500000000   -- T0 + k/2 seconds

/-- 3 buckets of 1.5 s -/
private def exC : Cfg := ⟨3, 1500000000⟩

private def exH : List (Nat × Ev) :=
  [(s 0, .inc 2), (s 1, .read), (s 4, .inc 5), (s 4, .inc 1), (s 7, .read), (s 8, .inc 4)]

example : Accepted exC := ⟨by decide +kernel, by decide +kernel⟩
example : Timeline exC (exH.map Prod.fst) (s 9) := ⟨by decide +kernel, by decide +kernel, by decide +kernel, by decide +kernel⟩
example : NonNeg exH := by unfold NonNeg; decide +kernel
/-- at `T0+4.5 s` the slot of the first increment (`[T0, T0+1.5 s)`) has just left the 3-slot window -/
example : (count exC (run exC exH) (s 9)).2 = 10 := by decide +kernel
example : sumIf (fun u => s 9 ≤ u + (exC.n - 1) * exC.r) (incs exH) = 10 := by decide +kernel
example : sumIf (fun u => s 9 < u + exC.n * exC.r) (incs exH) = 10 := by decide +kernel
/-- half a second earlier the first slot is still inside: the lower bound is strict there -/
example : (count exC (run exC exH) (s 8)).2 = 12 ∧
    sumIf (fun u => s 8 ≤ u + (exC.n - 1) * exC.r) (incs exH) = 10 ∧
    sumIf (fun u => s 8 < u + exC.n * exC.r) (incs exH) = 12 := by decide +kernel
/-- idle gap of exactly `n·r` after the last increment -/
example : Timeline exC (exH.map Prod.fst) (s 17) ∧
    (∀ e ∈ exH, isInc e.2 = true → e.1 + exC.n * exC.r ≤ s 17) ∧
    (count exC (run exC exH) (s 14)).2 = 4 ∧ (count exC (run exC exH) (s 17)).2 = 0 := by
  refine ⟨⟨by decide +kernel, by decide +kernel, by decide +kernel, by decide +kernel⟩, by decide +kernel, by decide +kernel, by decide +kernel⟩

/-- the witness of the repaired bucket-index defect: 10 buckets of 2 s, one increment, still counted
    10 s and 18 s later, gone after 20 s -/
example : (count ⟨10, 2000000000⟩ (run ⟨10, 2000000000⟩ [(T0, .inc 1)]) (T0 + 10000000000)).2 = 1 ∧
    (count ⟨10, 2000000000⟩ (run ⟨10, 2000000000⟩ [(T0, .inc 1)]) (T0 + 18000000000)).2 = 1 ∧
    (count ⟨10, 2000000000⟩ (run ⟨10, 2000000000⟩ [(T0, .inc 1)]) (T0 + 20000000000)).2 = 0 := by decide +kernel

/-- the shared-bucket scenario: increment, `Clone()`, two more increments on the live counter in later
    slots, then the snapshot is read (and incremented), then the live counter -/
private def exD : List (Nat × DEv) :=
  [(s 0, .live (.inc 1)), (s 0, .clone), (s 3, .live (.inc 10)), (s 6, .live (.inc 100)),
   (s 6, .snap .read), (s 6, .snap (.inc 7)), (s 6, .live .read)]

example : Timeline exC (exD.map Prod.fst) (s 6) := ⟨by decide +kernel, by decide +kernel, by decide +kernel, by decide +kernel⟩
example : (count exC (Duo.run exC exD).live (s 6)).2 = 111 ∧
    (Duo.run exC exD).snap.map (fun x => (count exC x (s 6)).2) = some 8 ∧
    snapIncs exD = [(s 6, 7), (s 0, 1)] ∧
    incs (liveHist exD) = [(s 6, 100), (s 3, 10), (s 0, 1)] := by decide +kernel

private def exR : List (Nat × REv) :=
  [(s 0, .incA 1), (s 0, .incB 3), (s 4, .incA 2), (s 5, .read), (s 6, .incB 1)]

example : Timeline exC (exR.map Prod.fst) (s 9) := ⟨by decide +kernel, by decide +kernel, by decide +kernel, by decide +kernel⟩
example : ((Ratio.run exC exR).ratio exC (s 8)).2 = (3, 7) ∧
    ((Ratio.run exC exR).ratio exC (s 9)).2 = (2, 3) ∧
    ((Ratio.run exC exR).ratio exC (s 15)).2 = (0, 0) := by decide +kernel

example : newCounter 0 1000000000 = .error .buckets ∧ newCounter 5 999999999 = .error .resolution ∧
    newCounter 5 1000000001 = .ok ⟨5, 1000000001⟩ := by decide +kernel

end C17
