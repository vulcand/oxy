import OxyModel.Proofs.Forward.Pipeline
import OxyModel.Proofs.Forward.Target
/-!
# C08 — the forwarder rewrites the outgoing request as a correct reverse proxy

Objects: `Fwd.serve c r : Option Wire` is the request `forward.New(c.passHostHeader)` puts on the wire for the
incoming request `r` (`none`: the stdlib refuses a non-printable upgrade type and calls the error handler);
`Fwd.relay b` is the response the client gets for the backend response `b`. `r.formParsed` says whether
somebody in front of the forwarder parsed the request's form (then the stdlib cleans the outgoing query). Both are the definitions the
correspondence driver runs. `c.trust = true` and `c.hostname ≠ ""` is what `forward.New` builds
(`NewHeaderRewriter`).

Not verified here (assumed, exercised by the correspondence run): that `http.Transport` writes
`URL.RequestURI()`, `Host` and the header map the way `Fwd.Wire`/`wireHeader` say, Go's server-side parsing
of the incoming request, and `transportResp` (the Transport's handling of `Connection: close`).
-/
namespace C08
open Fwd FwdURL

/-! ## protocol, backend, Host -/

/-- **C08, HTTP/1.1 to the caller's backend, Host rule.** -/
theorem C08_host (c : Cfg) (r : Req) (w : Wire) (hw : serve c r = some w) :
    w.proto = "HTTP/1.1" ∧ w.backend = (r.url.scheme, r.url.host) ∧
    (c.passHostHeader = false → w.host = r.url.host) ∧
    (c.passHostHeader = true → w.host = if r.host ≠ "" then r.host else r.url.host) := by
  rw [(serve_some hw).2, director_eq]
  refine ⟨rfl, rfl, fun hpass => ?_, fun hpass => ?_⟩
  · simp [hpass, modifyRequest]
  · simp [hpass, modifyRequest]

/-! ## request target -/

/-- **C08, request target.** For every valid origin-form target — `path` over RFC 3986 `pchar`s, `/` and
well-formed `%XY` triples (so escaped slashes and spaces, multi-byte escapes, `;`, `+`, `//`, dot segments),
optionally `?query` (possibly empty) — the request line sent to the backend carries exactly the bytes the
client sent: nothing decoded, nothing re-encoded, nothing normalised. (`/a?` relies on commit ef1f4f2.)
`hform`: nobody in front of the forwarder has parsed the request's form (`req.Form == nil`) — true for every oxy
middleware; if a caller's own handler calls `ParseForm`/`FormValue` first, `httputil.ReverseProxy` re-encodes a
query that contains `;` or a malformed escape, see `C08_form_parsed_counterexample`. -/
theorem C08_target_roundtrip (c : Cfg) (r : Req) (p : Bytes) (q : Option Bytes)
    (hp : validPath p = true) (hq : ∀ q', q = some q' → validQuery q' = true)
    (hr : r.requestURI = target p q) (hform : r.formParsed = false) (w : Wire) (hw : serve c r = some w) :
    w.target = target p q := by
  obtain ⟨u, hu, hreq⟩ := requestURI_parse r.url p q hp hq
  exact (target_of_parse hw hform (hr ▸ hu)).trans hreq

/-- **C08, request target in absolute-form** (`GET http://other/p?q HTTP/1.1`, RFC 7230 §5.3.2). For every valid
scheme, every simple authority (reg-name with optional port), every valid path or the empty path, and every
query: the request line sent to the backend is the target's path (`/` if it is empty) and query, byte for
byte — the target's scheme and authority select nothing (the backend stays the caller's: `C08_host`), and
the Go server uses the authority as `req.Host` (`serverHost`). -/
theorem C08_target_roundtrip_absolute (c : Cfg) (r : Req) (s a p : Bytes) (q : Option Bytes)
    (hs : validScheme s = true) (ha : simpleAuthority a = true) (hp : p = [] ∨ validPath p = true)
    (hq : ∀ q', q = some q' → validQuery q' = true)
    (hr : r.requestURI = absTarget s a p q) (hform : r.formParsed = false) (w : Wire) (hw : serve c r = some w) :
    w.target = target (if p = [] then ['/'] else p) q ∧ w.backend = (r.url.scheme, r.url.host) ∧
    ∃ u, parseRequestURI r.requestURI = some u ∧
      ∀ hostHeader, serverHost u hostHeader = if a ≠ [] then String.ofList a else hostHeader := by
  obtain ⟨u, hu, hh, hreq⟩ := requestURI_parse_abs r.url s a p q hs ha hp hq
  have hpu : parseRequestURI r.requestURI = some u := hr ▸ hu
  refine ⟨(target_of_parse hw hform hpu).trans hreq, (C08_host c r w hw).2.1, u, hpu, fun hostHeader => ?_⟩
  simp only [serverHost, hh]
  by_cases hae : a = []
  · subst hae; simp
  · simp [hae, String.ofList_eq_empty_iff]

/-- the hypothesis `formParsed = false` of the two round-trip theorems is needed: with the form parsed upstream
the stdlib's `cleanQueryParams` drops `b=2;c=3` and `a=%zz` from a query every character of which is valid -/
theorem C08_form_parsed_counterexample :
    ∃ (r : Req), r.formParsed = true ∧
      validPath "/p".toList = true ∧ validQuery "b=2;c=3&a=%zz&z=1".toList = true ∧
      r.requestURI = target "/p".toList (some "b=2;c=3&a=%zz&z=1".toList) ∧
      (serve { passHostHeader := false } r).map (·.target) = some "/p?z=1".toList ∧ "/p?z=1".toList ≠ r.requestURI :=
  ⟨{ requestURI := "/p?b=2;c=3&a=%zz&z=1".toList, url := { scheme := "http", host := "b" }, host := "h",
     remoteAddr := "1.2.3.4:5", tls := false, header := [], formParsed := true },
   rfl, by
     -- `rw`, not `simp`: it unifies a literal with `String.ofList _` instead of decoding it
     repeat rw [String.toList_ofList]
     decide +kernel⟩

/-! ## hop-by-hop headers, request direction -/

/-- **C08, hop-by-hop hygiene towards the backend.** `k` is a hop-by-hop name: on the stdlib's list or named
by the client's Connection header (canonicalised), and not a forwarding header (those are protected, see
`C08_xfwd_survive`). Then no header `k` reaches the backend, except for what the proxy emits *itself* for its
own hop: `Te: trailers` when the client announced trailer support, `Connection: Upgrade` / `Upgrade: <type>`
on a protocol-upgrade request, and the `Content-Length` framing of the body it sends. -/
theorem C08_hop_by_hop_removed (c : Cfg) (r : Req) (w : Wire) (hw : serve c r = some w) (k : String)
    (hk : k ∈ hopHeaders ∨ k ∈ named r.header) (hx : k ∉ XHeaders) :
    (k ∉ ["Te", "Connection", "Upgrade", "Content-Length", "User-Agent"] → has w.header k = false) ∧
    (vals w.header "Te" = if containsToken (vals r.header "Te") "trailers" then ["trailers"] else []) ∧
    (vals w.header "Connection" = if upgradeType (director c r).header ≠ "" then ["Upgrade"] else []) ∧
    (vals w.header "Upgrade" =
      if upgradeType (director c r).header ≠ "" then [upgradeType (director c r).header] else []) := by
  -- what hop-by-hop removal leaves under a hop-by-hop name: nothing
  have gone : ∀ k', k' ∈ hopHeaders ∨ (k' ∈ named r.header ∧ k' ∉ XHeaders) →
      (removeHopByHop (director c r).header).lookup k' = none :=
    fun k' h => by rw [lookup_removeHopByHop_director, if_pos h]
  rw [serve_header hw, outHeader]
  refine ⟨fun hn => ?_, ?_, ?_, ?_⟩
  · simp only [List.mem_cons, List.not_mem_nil, or_false, not_or] at hn
    obtain ⟨n1, n2, n3, n4, n5⟩ := hn
    have : k ≠ XForwardedFor := fun e => hx (by simp [XHeaders, e])
    -- no row of the stdlib's stages answers for `k`, or the Transport manages it
    rw [has_eq_lookup, lookup_stdlib_stages, gone k (hk.imp_right (⟨·, hx⟩))]
    simp only [n1, n2, n3, n4, n5, this, Connection, false_and, if_false, ite_self]; rfl
  -- Te, Connection, Upgrade are on the stdlib's list, so what is sent is the row of the stage that writes the name again
  all_goals
    rw [vals_eq_lookup, lookup_stdlib_stages, gone _ (Or.inl (by simp [hopHeaders]))]
    simp only [transportManaged, hdr_names, List.mem_cons, List.not_mem_nil, String.reduceEq, or_self, false_and, true_and,
      if_false, apply_ite (Option.getD · []), Option.getD_some, Option.getD_none]

/-- **C08, end-to-end headers reach the backend unchanged** (all values, in order). `stdlibOwn` are the names
the stdlib writes itself (framing, Host, User-Agent, X-Forwarded-For, and the three above). -/
theorem C08_end_to_end_preserved (c : Cfg) (r : Req) (w : Wire) (hw : serve c r = some w) (k : String)
    (h1 : k ∉ hopHeaders) (h2 : k ∉ named r.header) (h3 : k ∉ XHeaders) (h4 : k ∉ stdlibOwn) :
    w.header.lookup k = r.header.lookup k := by
  rw [lookup_serve c r w hw k h4, if_neg (by simp [h1, h2]), lookup_rewrite_other _ _ _ h3]

/-- **C08, User-Agent** (the one end-to-end header `http.Transport` writes itself): the client's value (the first
one) reaches the backend unless it is empty or the client names User-Agent in Connection; the proxy never
invents one. -/
theorem C08_user_agent (c : Cfg) (r : Req) (w : Wire) (hw : serve c r = some w) :
    vals w.header "User-Agent" =
      if get r.header "User-Agent" ≠ "" ∧ "User-Agent" ∉ named r.header then [get r.header "User-Agent"] else [] := by
  have hx : "User-Agent" ∉ XHeaders := by
    simp [XHeaders, hdr_names]
  have hl : (removeHopByHop (director c r).header).lookup "User-Agent" =
      if "User-Agent" ∈ named r.header then none else r.header.lookup "User-Agent" := by
    rw [lookup_removeHopByHop_director, lookup_rewrite_other _ _ _ hx]
    simp [hx, hopHeaders]
  rw [serve_header hw, outHeader, vals_eq_lookup, lookup_stdlib_stages, get_eq_lookup, hl]
  simp only [transportManaged, List.mem_cons, String.reduceEq, false_and, true_and, true_or, false_or, if_false, if_true]
  by_cases hn : "User-Agent" ∈ named r.header
  · simp [hn]
  · simp [hn, get_eq_lookup, apply_ite (Option.getD · [])]

/-! ## hop-by-hop headers, response direction -/

/-- **C08, hop-by-hop hygiene towards the client** — *partial*. Full statement: for every backend response no
header on the stdlib's hop-by-hop list or named by the backend's Connection header reaches the client.
Proved under `hclose`: the backend's Connection header does not contain the token `close`. Without it the
statement is false for the code as it is (`C08_resp_close_counterexample`): `http.Transport` deletes a
Connection header that says `close` before `ReverseProxy` can read the names in it. -/
theorem C08_resp_hop_by_hop_removed_partial (b : Resp) (k : String)
    (hk : k ∈ hopHeaders ∨ k ∈ named b.header)
    (hclose : containsToken (vals b.header Connection) "close" = false) :
    has (relay b).header k = false := by
  rw [has_eq_lookup, lookup_relay, if_pos (hk.imp_right (⟨hclose, ·⟩))]; rfl

/-- the standard hop-by-hop names never reach the client, whatever the Connection header says -/
theorem C08_resp_standard_hop_removed (b : Resp) (k : String) (hk : k ∈ hopHeaders) :
    has (relay b).header k = false :=
  has_relay_hop b k hk

theorem C08_resp_close_counterexample :
    ∃ (b : Resp) (k : String), k ∈ named b.header ∧ k ∉ hopHeaders ∧ has (relay b).header k = true :=
  ⟨{ status := 200, header := [("Connection", ["close, X-Hop"]), ("X-Hop", ["1"])], body := "" }, "X-Hop",
    by decide +kernel⟩

/-- **C08/C16, end-to-end response headers reach the client unchanged**, status and body too. -/
theorem C08_resp_end_to_end_preserved (b : Resp) (k : String) (h1 : k ∉ hopHeaders) (h2 : k ∉ named b.header) :
    (relay b).header.lookup k = b.header.lookup k ∧ (relay b).status = b.status ∧ (relay b).body = b.body :=
  ⟨lookup_relay_end_to_end b k h1 h2, by simp [relay], by simp [relay]⟩

/-! ## forwarding headers -/

/-- **C08, the forwarding headers set by the rewriter reach the backend whatever the client's Connection
header lists** (the defect repaired by commit cc5d550: `Connection: X-Real-Ip, X-Forwarded-Proto, …`). -/
theorem C08_xfwd_survive (c : Cfg) (r : Req) (w : Wire) (hw : serve c r = some w) (k : String)
    (hk : k ∈ XHeaders) (hf : k ≠ XForwardedFor) :
    w.header.lookup k = (rewrite c (modifyRequest r)).lookup k := by
  have own : ∀ k ∈ XHeaders, k ≠ XForwardedFor → k ∉ stdlibOwn ∧ k ∉ hopHeaders := by decide +kernel
  obtain ⟨h1, h2⟩ := own k hk hf
  rw [lookup_serve c r w hw k h1, if_neg (by simp [h2, hk]), rewrite_modifyRequest]

/-- **C08, X-Forwarded-Proto / -Host / -Port / -Server and X-Real-Ip describe the incoming connection unless
an upstream proxy supplied them** ("supplied" as the code reads it: `Header.Get` is non-empty, i.e. the first
value is not the empty string; a supplied header is passed on with all its values). X-Forwarded-Server is
always this proxy's host name (`properties.jsonl`, C08 mechanism 2: "server name always set").
`splitHostPort r.remoteAddr = none` (no usable peer address) leaves X-Real-Ip as it came. -/
theorem C08_xfwd_filled_iff_absent (c : Cfg) (r : Req) (w : Wire) (hw : serve c r = some w)
    (ht : c.trust = true) (hn : c.hostname ≠ "") :
    (vals w.header XForwardedProto =
      if get r.header XForwardedProto = "" then [if r.tls then "https" else "http"]
      else vals r.header XForwardedProto) ∧
    (vals w.header XRealIP =
      match splitHostPort r.remoteAddr with
      | some (ip, _) => if get r.header XRealIP = "" then [ipv6fix ip] else vals r.header XRealIP
      | none => vals r.header XRealIP) ∧
    (vals w.header XForwardedHost =
      if get r.header XForwardedHost = "" ∧ r.host ≠ "" then [r.host] else vals r.header XForwardedHost) ∧
    (vals w.header XForwardedPort =
      if get r.header XForwardedPort = "" then [portFor r.host (effProto r) r.tls]
      else vals r.header XForwardedPort) ∧
    (vals w.header XForwardedServer = [c.hostname]) := by
  -- each is the rewriter's (`C08_xfwd_survive`), and there the row of `vals_rewrite` that answers to the name
  have s : ∀ k ∈ XHeaders, k ≠ XForwardedFor → vals w.header k = vals (rewrite c r) k :=
    fun k hk hf => by rw [vals_eq_lookup, C08_xfwd_survive c r w hw k hk hf, rewrite_modifyRequest, vals_eq_lookup]
  refine ⟨?_, ?_, ?_, ?_, ?_⟩
  · rw [s _ (by simp [XHeaders]) (by simp [hdr_names]), vals_rewrite c r ht]
    simp only [hdr_names, String.reduceEq, false_and, true_and, if_false, vals_eq_lookup, lookup_rwRealIP, not_false_eq_true]
    -- the same on both sides up to the `Decidable` instance
    rfl
  · rw [s _ (by simp [XHeaders]) (by simp [hdr_names]), vals_rewrite c r ht]
    simp only [hdr_names, String.reduceEq, false_and, if_false]
    exact vals_rwRealIP _ _
  · rw [s _ (by simp [XHeaders]) (by simp [hdr_names]), vals_rewrite c r ht]
    simp only [hdr_names, String.reduceEq, false_and, true_and, if_false, vals_eq_lookup, lookup_rwRealIP, not_false_eq_true]
    rfl
  · rw [s _ (by simp [XHeaders]) (by simp [hdr_names]), vals_rewrite c r ht]
    simp only [hdr_names, String.reduceEq, false_and, true_and, if_false, vals_eq_lookup, lookup_rwRealIP, not_false_eq_true]
    rfl
  · rw [s _ (by simp [XHeaders]) (by simp [hdr_names]), vals_rewrite c r ht, if_pos ⟨rfl, hn⟩]

/-- **C08, the peer address is appended to X-Forwarded-For**: the header sent is the prior values (all of them,
in order) joined with ", " followed by the peer's address; a client cannot strip it through Connection. -/
theorem C08_xff_appended (c : Cfg) (r : Req) (w : Wire) (hw : serve c r = some w) (ht : c.trust = true)
    (ip port : String) (hpeer : splitHostPort r.remoteAddr = some (ip, port)) :
    vals w.header XForwardedFor =
      [if vals r.header XForwardedFor ≠ [] then String.intercalate ", " (vals r.header XForwardedFor) ++ ", " ++ ip
       else ip] := by
  have prior : vals (removeHopByHop (director c r).header) XForwardedFor = vals r.header XForwardedFor := by
    have hx : XForwardedFor ∈ XHeaders := by simp [XHeaders]
    have hh : XForwardedFor ∉ hopHeaders := by simp [hopHeaders, XForwardedFor]
    rw [vals_eq_lookup, lookup_removeHopByHop_director, if_neg (by simp [hx, hh]), lookup_rewrite c r ht]
    -- no block writes X-Forwarded-For
    simp only [hdr_names, String.reduceEq, false_and, if_false, lookup_rwRealIP, not_false_eq_true, vals_eq_lookup]
  rw [serve_header hw, outHeader, vals_eq_lookup, lookup_stdlib_stages]
  simp only [transportManaged, hdr_names, List.mem_cons, List.not_mem_nil, String.reduceEq, or_self, false_and, if_false,
    if_true]
  exact (vals_appendXFF _ _ ip port hpeer).trans (by rw [prior]; rfl)

/-! ## non-vacuity: concrete requests exercising every clause -/

/-- the witness of the defect repaired by ef1f4f2: the empty query of `/a?` is kept -/
example : (serve { passHostHeader := false }
      { requestURI := ['/', 'a', '?'], url := { scheme := "http", host := "b" }, host := "h",
        remoteAddr := "1.2.3.4:5", tls := false, header := [] }).map (·.target) = some ['/', 'a', '?'] := by
  decide +kernel

/-- `GET /a%2Fb%20c//d/../e;x=1+2?q=%zz HTTP/1.1`, Host `example.com:8080`, peer `[fe80::1%eth0]:5555`, TLS,
client headers `Connection: X-Real-Ip, x-foo, close`, `X-Foo`, `X-Test` (two values), `Keep-Alive`,
`X-Forwarded-For: 1.1.1.1` -/
def sampleReq : Req where
  requestURI := "/a%2Fb%20c//d/../e;x=1+2?q=%zz".toList
  url := { scheme := "http", host := "10.0.0.7:9000" }
  host := "example.com:8080"
  remoteAddr := "[fe80::1%eth0]:5555"
  tls := true
  header := [("Connection", ["X-Real-Ip, x-foo, close"]), ("X-Foo", ["1"]), ("X-Test", ["hello", "again"]),
    ("Keep-Alive", ["3"]), ("X-Forwarded-For", ["1.1.1.1"])]

def sampleCfg : Cfg := { passHostHeader := false }

example : validPath "/a%2Fb%20c//d/../e;x=1+2".toList = true ∧ validQuery "q=%zz".toList = true := by
  repeat rw [String.toList_ofList]
  decide +kernel
example : sampleReq.requestURI = target "/a%2Fb%20c//d/../e;x=1+2".toList (some "q=%zz".toList) := by
  unfold sampleReq
  repeat rw [String.toList_ofList]
  decide +kernel
example : (serve sampleCfg sampleReq).map (fun w =>
      (w.target == sampleReq.requestURI, w.host, has w.header "X-Foo", has w.header "Keep-Alive",
       has w.header "Connection"))
    = some (true, "10.0.0.7:9000", false, false, false) := by
  decide +kernel
example : (serve sampleCfg sampleReq).map (fun w =>
      [vals w.header "X-Test", vals w.header XRealIP, vals w.header XForwardedProto,
       vals w.header XForwardedPort, vals w.header XForwardedHost, vals w.header XForwardedFor])
    = some [["hello", "again"], ["fe80::1"], ["https"], ["8080"], ["example.com:8080"], ["1.1.1.1, fe80::1%eth0"]] := by
  decide +kernel
/-- an absolute-form witness: `GET HTTP://Other.Example:8080/p%2Fq;x?a=1;b=2&c= HTTP/1.1` -/
example : validScheme "HTTP".toList = true ∧ simpleAuthority "Other.Example:8080".toList = true ∧
    validPath "/p%2Fq;x".toList = true ∧ validQuery "a=1;b=2&c=".toList = true := by
  repeat rw [String.toList_ofList]
  decide +kernel
example : (serve sampleCfg { sampleReq with requestURI := "HTTP://Other.Example:8080/p%2Fq;x?a=1;b=2&c=".toList }).map
      (fun w => (w.target, w.backend)) = some ("/p%2Fq;x?a=1;b=2&c=".toList, ("http", "10.0.0.7:9000")) := by
  repeat rw [String.toList_ofList]
  decide +kernel
example : (serve sampleCfg { sampleReq with requestURI := "http://other?".toList }).map (·.target) = some "/?".toList := by
  repeat rw [String.toList_ofList]
  decide +kernel
example : "X-Foo" ∈ named sampleReq.header ∧ "X-Foo" ∉ XHeaders ∧ "X-Real-Ip" ∈ named sampleReq.header := by
  decide +kernel
example : splitHostPort sampleReq.remoteAddr = some ("fe80::1%eth0", "5555") := by
  unfold splitHostPort sampleReq
  rw [String.toList_ofList]
  decide +kernel
/-- hypotheses of the response theorems are satisfiable: a backend Connection header without `close` -/
example : containsToken (vals [("Connection", ["X-Hop, keep-alive"]), ("X-Hop", ["1"])] Connection) "close" = false ∧
    "X-Hop" ∈ named [("Connection", ["X-Hop, keep-alive"]), ("X-Hop", ["1"])] := by decide +kernel

end C08
