import OxyModel.Proofs.Buffer.Loop

/-!
# C15 — Buffer enforces its size limits and leaves no temporary files behind

Property theorems only.  Model: `Buf.serve` (`OxyModel/Model/Buffer.lean`) including `multibuf.New`
(request side) and `multibuf.writerOnce` (response side) with a ledger of temporary files:
`(serve …).created` / `.removed` count the files created / removed during the exchange, and
`views[i].filesAtExit` the files on disk when invocation `i+1` returned.  A maximum `≤ 0` (the default
`-1`, or `0` set explicitly) means "no limit"; a memory threshold `0` means multibuf's default 1 MiB.
-/
namespace C15
open Buf

/-- **C15 (request over the maximum ⇒ 413, handler never reached)**: for every request whose body is longer
    than a positive request maximum — with a declared length (`req.chunked = false`, rejected by `checkLimit`
    before anything is read) or discovered while the chunked body is read (`req.chunked = true`, `maxReader`) —
    the handler is not invoked, the client receives status 413 with the fixed text, and nothing is hijacked. -/
theorem C15_request_over_limit_413_no_invoke (cfg : Cfg) (req : Req) (script : Nat → Attempt)
    (hov : requestOver cfg req) :
    (serve cfg req script).invocations = 0 ∧ (serve cfg req script).resp.status = some 413 ∧
    (serve cfg req script).resp.body = textBytes "Request Entity Too Large" ∧
    (serve cfg req script).hijacked = false := by
  obtain ⟨c, hc⟩ := serve_rejected cfg req script hov
  rw [hc, sizeErrHandler_maxSize]
  -- project first: unifying the unreduced projection with the text would decode the string literal
  dsimp only
  exact ⟨rfl, rfl, rfl, rfl⟩

/-- the converse, so that the 413 is not handed out too eagerly: a body within the maximum (or no maximum)
    reaches the handler -/
theorem C15_within_limit_reaches_handler (cfg : Cfg) (req : Req) (script : Nat → Attempt)
    (hadm : ¬ requestOver cfg req) : 1 ≤ (serve cfg req script).invocations := by
  obtain ⟨_, _, s⟩ := serve_served cfg req script hadm
  exact s.pos

/-- **C15 (response over the maximum ⇒ error status, none of its bytes)**: if any invocation `k` of an admitted
    request writes more than a positive response maximum in total (whatever the chunking, and whether or not part
    of it was already spilled to disk), returns normally and does not take the connection over, then `k` is the last invocation and
    the client receives status 500 with the fixed error text and no header of the attempt — no byte of the
    response. -/
theorem C15_response_over_limit_no_bytes (cfg : Cfg) (req : Req) (script : Nat → Attempt)
    (hadm : ¬ requestOver cfg req) (k : Nat) (hk1 : 1 ≤ k) (hk2 : k ≤ (serve cfg req script).invocations)
    (ho : overLimit cfg (script k)) (hp : ¬ panics (script k)) (hh : ¬ hijackEff cfg (script k)) :
    k = (serve cfg req script).invocations ∧ (serve cfg req script).resp.status = some 500 ∧
    (serve cfg req script).resp.body = textBytes "Internal Server Error" ∧
    (serve cfg req script).resp.sentHeader = [] ∧ (serve cfg req script).hijacked = false := by
  obtain ⟨_, _, s⟩ := serve_served cfg req script hadm
  have hd := decision_over (req := req) (k := k) hp hh ho
  have hkn := s.eq_invocations_of_final hk1 hk2 hd
  obtain ⟨r1, r2, _⟩ := s.resp_of_final (hkn ▸ hd)
  rw [r1, sizeErrHandler_other]
  dsimp only
  exact ⟨hkn, rfl, rfl, rfl, r2⟩

/-- **C15 (no temporary file remains)**: for every configuration (memory thresholds and maxima in every relation,
    including 0 and the defaults), every request and every handler script — success, error, request or response
    over a limit, any number of retries, HEAD / 1xx / 204 / 304 / `Content-Length: 0` / gRPC-status responses whose
    spilled body is never read back, hijacked connections, and a handler that panics after spilling (only the deferred
    closes run) — every temporary file created during the exchange has
    been removed when `ServeHTTP` returns. -/
theorem C15_no_temp_left (cfg : Cfg) (req : Req) (script : Nat → Attempt) :
    (serve cfg req script).created = (serve cfg req script).removed := by
  by_cases hov : requestOver cfg req
  · obtain ⟨c, hc⟩ := serve_rejected cfg req script hov
    rw [hc]
  · obtain ⟨_, _, s⟩ := serve_served cfg req script hov
    exact s.ledger

/-- **C15 (bodies beyond the memory threshold are spilled)**: (request) a body at least as long as the effective
    request memory threshold is put in a temporary file; (response) when an invocation has written, within the
    maximum, more than the response memory threshold, a temporary file exists when it returns. -/
theorem C15_spills_beyond_threshold (cfg : Cfg) (req : Req) (script : Nat → Attempt) (hadm : ¬ requestOver cfg req) :
    (effMem cfg.maxReq cfg.memReq ≤ req.body.length → 1 ≤ (serve cfg req script).created) ∧
    (∀ i v, (serve cfg req script).views[i]? = some v → ¬ overLimit cfg (script (i + 1)) →
      (if cfg.memResp = 0 then MultibufDefaultMemBytes else cfg.memResp) < sumLen (script (i + 1)).writes →
      1 ≤ v.filesAtExit) := by
  obtain ⟨c, hc, s⟩ := serve_served cfg req script hadm
  refine ⟨fun h => hc h ▸ s.created, fun i v hv hno hgt => (s.seen i v hv).spilled ?_⟩
  rw [fresh_onDisk cfg _ hno, respMem_eq]
  exact decide_eq_true hgt

/-! ## non-vacuity -/

def exReq (chunked : Bool) (n : Nat) : Req :=
  { method := "PUT", url := "/u", header := [], chunked := chunked, body := List.replicate n 7 }

/-- request maximum 5 with memory threshold 2: six bytes are refused with either framing -/
example : requestOver { maxReq := 5, memReq := 2 } (exReq false 6) ∧ requestOver { maxReq := 5, memReq := 2 } (exReq true 6) := by
  decide +kernel
example : (serve { maxReq := 5, memReq := 2 } (exReq true 6) (fun _ => {})).resp.status = some 413 := by decide +kernel
example : (serve { maxReq := 5, memReq := 2 } (exReq true 5) (fun _ => {})).invocations = 1 := by decide +kernel

/-- response memory threshold 4, maximum 10, writes of 3+3+3+3 bytes: spilled at the second write, over the
    limit at the fourth -/
def exCfg : Cfg := { memResp := 4, maxResp := 10 }
def exScript : Nat → Attempt := fun _ => { writes := [[1, 1, 1], [2, 2, 2], [3, 3, 3], [4, 4, 4]] }

example : ¬ requestOver exCfg (exReq false 3) ∧ overLimit exCfg (exScript 1) ∧ ¬ panics (exScript 1) ∧ ¬ hijackEff exCfg (exScript 1) := by decide +kernel
example : (serve exCfg (exReq false 3) exScript).resp.status = some 500 ∧
    (serve exCfg (exReq false 3) exScript).created = 1 ∧ (serve exCfg (exReq false 3) exScript).removed = 1 := by decide +kernel
/-- a HEAD request whose spilled response body is never read back, after two retried attempts that spilled too -/
example : (serve { memResp := 1, retry := some (.cmp .attempts .lt 3) }
    { method := "HEAD", url := "/", header := [], chunked := false, body := [] }
    (fun _ => { writes := [[1, 2, 3]] })).created = 3 := by decide +kernel
example : (serve { memResp := 1, retry := some (.cmp .attempts .lt 3) }
    { method := "HEAD", url := "/", header := [], chunked := false, body := [] }
    (fun _ => { writes := [[1, 2, 3]] })).views.map (·.filesAtExit) = [1, 2, 3] := by decide +kernel

/-- a handler that panics after spilling, on the second attempt: both files are removed by the deferred closes -/
example : (serve { memResp := 1, retry := some (.cmp .attempts .lt 2) }
    { method := "GET", url := "/", header := [], chunked := false, body := [] }
    (fun _ => { writes := [[1, 2, 3]], panic := true })).created = 1 ∧
    (serve { memResp := 1, retry := some (.cmp .attempts .lt 2) }
    { method := "GET", url := "/", header := [], chunked := false, body := [] }
    (fun _ => { writes := [[1, 2, 3]], panic := true })).removed = 1 ∧
    (serve { memResp := 1, retry := some (.cmp .attempts .lt 2) }
    { method := "GET", url := "/", header := [], chunked := false, body := [] }
    (fun _ => { writes := [[1, 2, 3]], panic := true })).panicked = true := by decide +kernel

end C15
