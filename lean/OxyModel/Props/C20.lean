import OxyModel.Proofs.Stack.Basic
import OxyModel.Proofs.Stack.Link
import OxyModel.Proofs.Stack.ProxyWriter
import OxyModel.Props.C01
import OxyModel.Props.C05
import OxyModel.Props.C15

/-!
# C20 — middleware stacks are transparent or decisive

`Stack.serveStack stack h req` (Model/Stack.lean) is one request through `stack` (outermost first; any order,
any depth, repetitions allowed) to the handler `h`.  All theorems quantify over every stack, every handler
behaviour `h : Req → Script` (status or none, headers, body chunks, flush point, hijack attempt), every request
and every layer configuration.
-/
namespace C20
open Stack

/-- The layer has no reason to intervene on this request/handler: its limit is not reached, the breaker is in standby,
the pool is non-empty, the request and the handler's body are within the buffer's maxima, and a buffer configured to retry on
network errors is not looking at a 502/504 (then the documented retry applies: `C20_retry_documented`). -/
def passes (l : LayerCfg) (req : Req) (s : Script) : Prop :=
  intervenes l req = false ∧ overflows l (scriptResp s).body.length = false
  ∧ (retryBuf l && netErr (scriptResp s).status) = false

instance (l : LayerCfg) (req : Req) (s : Script) : Decidable (passes l req s) := by
  unfold passes; infer_instance

/-- The documented status of each layer's own response (`connlimit.ConnErrHandler`, `ratelimit.RateErrHandler`,
`cbreaker` default fallback / `ResponseFallback` / `RedirectFallback`, `utils.DefaultHandler` for `ErrNoServers`,
`buffer.SizeErrHandler`).  Stream and trace have none (0). -/
def documentedStatus (l : LayerCfg) : Nat :=
  match l.kind with
  | .connlimit => 429
  | .ratelimit => 429
  | .cbreaker => match l.fallback with
    | .dflt => 503
    | .response code => code
    | .redirect _ => 302
  | .roundrobin => 500
  | .rebalancer => 500
  | .buffer => 413
  | .stream => 0
  | .trace => 0

/-- Domain of handler behaviours for which a buffer is transparent: a handler that sends 1xx informational responses also
sets its final status explicitly.  (Outside it the code is NOT transparent, see `C20_info_implicit_final_counterexample`.) -/
def infoDomain (stack : List LayerCfg) (s : Script) : Prop :=
  ¬ hasBuffer stack ∨ s.info = [] ∨ s.status.isSome = true

/-- Domain of handler responses whose body a buffer relays: `bufferWriter.expectBody` holds for them (or they have no body).
Outside it the Buffer *drops the body by design* (`C20_buffer_drops_body_kinds`): 204/304, `Content-Length: 0`, and a
non-empty `Grpc-Status` other than "0". -/
def bodyDomain (stack : List LayerCfg) (s : Script) : Prop :=
  ¬ hasBuffer stack ∨ (scriptResp s).body = [] ∨ expectBody (scriptResp s).status s.headers = true

theorem relayable_script {stack : List LayerCfg} {s : Script} (hdom : infoDomain stack s) (hbody : bodyDomain stack s)
    (hb : hasBuffer stack) (c : Option Caps) (f : Bool) :
    Relayable { resp := scriptResp s, invoked := 1, seen := c, hijacked := false, flushed := f, infos := s.info,
                explicit := s.status.isSome } := by
  refine ⟨?_, ?_⟩
  · rcases hdom with h | h | h
    · exact absurd hb h
    · cases hs : s.status
      · exact Or.inr ⟨h, by simp [scriptResp, hs]⟩
      · exact Or.inl rfl
    · exact Or.inl h
  · rcases hbody with h | h | h
    · exact absurd hb h
    · exact Or.inl h
    · exact Or.inr h

theorem interventionResp_status (l : LayerCfg) : (interventionResp l).status = documentedStatus l := by
  unfold interventionResp documentedStatus
  cases l.kind with
  | cbreaker => cases l.fallback <;> rfl
  | _ => rfl

/-- **Transparent.**  If every layer passes, the handler runs exactly once; the client receives the handler's status and
body unchanged and its headers preceded only by the sticky cookies of the balancers in the stack (or, if the handler
hijacked the connection, exactly what it wrote there); a hijack attempt succeeds; the handler's writer can flush through to
the client unless a buffer is in the stack, and without a buffer a requested flush does reach the client. -/
theorem C20_transparent (stack : List LayerCfg) (h : Req → Script) (req : Req)
    (hp : ∀ l ∈ stack, passes l req (h req)) (hdom : infoDomain stack (h req)) (hbody : bodyDomain stack (h req)) :
    (serveStack stack h req).invoked = 1
    ∧ (serveStack stack h req).resp
        = (if (h req).hijack then scriptResp (h req) else decorate stack (scriptResp (h req)))
    ∧ (serveStack stack h req).hijacked = (h req).hijack
    ∧ (∃ c, (serveStack stack h req).seen = some c ∧ c.canHijack = true ∧ (c.canFlush = true ∨ hasBuffer stack))
    ∧ (¬ hasBuffer stack → (serveStack stack h req).flushed = (flushRequested (h req) && !(h req).hijack))
    ∧ (¬ hasBuffer stack → (serveStack stack h req).infos = (if (h req).hijack then [] else (h req).info)) := by
  have hH : (capsThrough stack Caps.real).canHijack = true := capsThrough_canHijack stack Caps.real
  have hF : ¬ hasBuffer stack → (capsThrough stack Caps.real).canFlush = true := fun hb => capsThrough_canFlush stack Caps.real hb
  have hF' := Classical.or_iff_not_imp_right.mpr hF
  rw [serveStack, serve_passing Caps.real stack h req (fun l hl => ⟨(hp l hl).1, (hp l hl).2.1⟩) (relayable_script hdom hbody)]
  have hone := attemptsThrough_one stack _ (fun l hl => (hp l hl).2.2)
  cases hj : (h req).hijack
  · rw [if_neg (by simp)]
    exact ⟨by simp [relayed, hone], rfl, rfl, ⟨_, rfl, hH, hF'⟩, fun hb => by simp [relayed, hF hb],
      infosThrough_noBuffer stack _⟩
  · rw [if_pos (by simp [hH])]
    exact ⟨rfl, rfl, rfl, ⟨_, rfl, hH, hF'⟩, fun _ => by simp, fun _ => rfl⟩

/-- What `decorate` can add: status and body are untouched, and the only additional headers are the documented
`Set-Cookie` of the sticky balancers, in stack order, in front of the handler's own headers. -/
theorem C20_decorate_only_cookies (stack : List LayerCfg) (r : Resp) :
    (decorate stack r).status = r.status ∧ (decorate stack r).body = r.body
    ∧ (decorate stack r).headers = stack.flatMap cookieOf ++ r.headers
    ∧ (∀ hd ∈ stack.flatMap cookieOf, hd.1 = "Set-Cookie") := by
  rw [decorate_eq]
  exact ⟨rfl, rfl, rfl, fun _ => fst_of_mem_cookies⟩

/-- **Decisive (at a position).**  If `L` intervenes and no layer outside it does (and the outer buffers' response maxima admit
`L`'s short body), the client receives exactly `L`'s documented response — relayed by the outer layers like any handler
response — and the handler is not invoked, whatever lies inside `L`. -/
theorem C20_decisive_at (outer inner : List LayerCfg) (L : LayerCfg) (h : Req → Script) (req : Req)
    (hout : ∀ l ∈ outer, intervenes l req = false ∧ overflows l (interventionResp L).body.length = false)
    (hL : intervenes L req = true)
    (hkeep : ¬ hasBuffer outer ∨ expectBody (interventionResp L).status (interventionResp L).headers = true) :
    serveStack (outer ++ L :: inner) h req = ⟨decorate outer (interventionResp L), 0, none, false, false, [], true⟩ := by
  -- the relayed result is written out: left as `_`, unification with `hout` would decode the body's string literal
  rw [serveStack, serve_append outer (L :: inner) h req Caps.real (fun l hl => (hout l hl).1), serve_cons_of_intervenes hL,
    foldr_step_relayed outer { resp := interventionResp L, invoked := 0, seen := none, hijacked := false,
                               flushed := false, infos := [], explicit := true } rfl (fun l hl => (hout l hl).2)
      (fun hb => ⟨Or.inl rfl, Or.inr (hkeep.resolve_left (not_not_intro hb))⟩)]
  simp only [relayed, infosThrough_nil, explicitThrough_true, Nat.mul_zero]

/-- **Decisive.**  Any stack containing an intervening layer: the outermost intervening layer answers, the handler is not invoked. -/
theorem C20_decisive (stack : List LayerCfg) (h : Req → Script) (req : Req)
    (hex : ∃ l ∈ stack, intervenes l req = true)
    (hlim : ∀ l ∈ stack, ∀ L ∈ stack, overflows l (interventionResp L).body.length = false)
    (hkeep : ¬ hasBuffer stack ∨ ∀ L ∈ stack, expectBody (interventionResp L).status (interventionResp L).headers = true) :
    ∃ outer L inner, stack = outer ++ L :: inner ∧ (∀ l ∈ outer, intervenes l req = false) ∧ intervenes L req = true
      ∧ serveStack stack h req = ⟨decorate outer (interventionResp L), 0, none, false, false, [], true⟩ := by
  -- the first intervening layer splits the stack
  obtain ⟨L, hfind⟩ := Option.isSome_iff_exists.mp (List.find?_isSome.mpr hex)
  obtain ⟨hL, outer, inner, e, hnot⟩ := List.find?_eq_some_iff_append.mp hfind
  have ho : ∀ l ∈ outer, intervenes l req = false := fun l hl => by simpa using hnot l hl
  refine ⟨outer, L, inner, e, ho, hL, ?_⟩
  subst e
  apply C20_decisive_at _ _ _ _ _ _ hL
  · rcases hkeep with hk | hk
    · exact Or.inl (fun ⟨x, hx, e⟩ => hk ⟨x, by simp [hx], e⟩)
    · exact Or.inr (hk L (by simp))
  · intro l hl
    exact ⟨ho l hl, hlim l (by simp [hl]) L (by simp)⟩

/-- **Status table.**  The client status of a decided request is the documented status of the deciding layer; stream and
trace never decide; a rate-limit refusal carries `X-Retry-In`. -/
theorem C20_status_table (outer inner : List LayerCfg) (L : LayerCfg) (h : Req → Script) (req : Req)
    (hout : ∀ l ∈ outer, intervenes l req = false ∧ overflows l (interventionResp L).body.length = false)
    (hL : intervenes L req = true)
    (hkeep : ¬ hasBuffer outer ∨ expectBody (interventionResp L).status (interventionResp L).headers = true) :
    (serveStack (outer ++ L :: inner) h req).resp.status = documentedStatus L
    ∧ L.kind ≠ Kind.stream ∧ L.kind ≠ Kind.trace
    ∧ (L.kind = Kind.ratelimit →
        ("X-Retry-In", goDuration L.periodMs) ∈ (serveStack (outer ++ L :: inner) h req).resp.headers) := by
  rw [C20_decisive_at outer inner L h req hout hL hkeep]
  refine ⟨(decorate_status _ _).trans (interventionResp_status L), ?_, ?_, ?_⟩
  · intro hk; simp [intervenes, hk] at hL
  · intro hk; simp [intervenes, hk] at hL
  · intro hk; simp [decorate_eq, interventionResp, hk]

/-- **Response limit of a buffer** (the one intervention that has to run the handler first).  A buffer whose
`MaxResponseBodyBytes` is exceeded by the handler's body answers 500 in place of the handler's response; the handler has
run exactly once. -/
theorem C20_response_limit (outer inner : List LayerCfg) (B : LayerCfg) (h : Req → Script) (req : Req)
    (hout : ∀ l ∈ outer, intervenes l req = false ∧ overflows l internalError.body.length = false)
    (hB : intervenes B req = false) (hov : overflows B (scriptResp (h req)).body.length = true)
    (hin : ∀ l ∈ inner, passes l req (h req)) (hj : (h req).hijack = false)
    (hdom : (h req).info = [] ∨ (h req).status.isSome = true) (hbody : bodyDomain inner (h req)) :
    (serveStack (outer ++ B :: inner) h req).invoked = 1
    ∧ (serveStack (outer ++ B :: inner) h req).resp = decorate outer internalError := by
  have hinner := serve_passing (wrapCaps B.kind (capsThrough outer Caps.real)) inner h req
    (fun l hl => ⟨(hin l hl).1, (hin l hl).2.1⟩) (relayable_script (Or.inr hdom) hbody)
  rw [if_neg (by simp [hj])] at hinner
  rw [serveStack, serve_append outer (B :: inner) h req Caps.real (fun l hl => (hout l hl).1), serve_cons_of_passes hB,
    hinner]
  generalize hx : relayed inner _ = x
  have hxh : x.hijacked = false := by rw [← hx]; rfl
  have hxb : x.resp.body = (scriptResp (h req)).body := by rw [← hx]; exact decorate_body _ _
  have hxi : x.invoked = 1 := by
    rw [← hx]; simp [relayed, attemptsThrough_one inner _ (fun l hl => (hin l hl).2.2)]
  rw [step_of_overflows B x hxh (by rw [hxb]; exact hov),
    foldr_step_relayed outer { x with resp := internalError, infos := [], explicit := true } hxh (fun l hl => (hout l hl).2)
      (fun _ => ⟨Or.inl rfl, Or.inr expectBody_internalError⟩)]
  have h2 := attemptsThrough_one outer internalError.status (fun l _ => by simp [internalError, netErr])
  exact ⟨by simp [relayed, h2, hxi], rfl⟩

/-- **A failed hijack stays a failed hijack.**  Behind a front whose writer cannot be hijacked (a recorder,
`http.TimeoutHandler`, HTTP/2) the handler's attempt fails in every passing stack, and the ordinary response it then writes is
relayed like any other: one invocation, status, headers (plus cookies) and body unchanged. -/
theorem C20_failed_hijack_relayed (front : Caps) (hf : front.canHijack = false)
    (stack : List LayerCfg) (h : Req → Script) (req : Req)
    (hp : ∀ l ∈ stack, passes l req (h req)) (hdom : infoDomain stack (h req)) (hbody : bodyDomain stack (h req)) :
    (serve stack h req front).invoked = 1 ∧ (serve stack h req front).hijacked = false
    ∧ (serve stack h req front).resp = decorate stack (scriptResp (h req)) := by
  have hH : (capsThrough stack front).canHijack = false := by rw [capsThrough_canHijack]; exact hf
  have hone := attemptsThrough_one stack _ (fun l hl => (hp l hl).2.2)
  rw [serve_passing front stack h req (fun l hl => ⟨(hp l hl).1, (hp l hl).2.1⟩) (relayable_script hdom hbody)]
  simp [hH, relayed, hone]

/-- the code `bufferWriter` holds when this handler returns: its final status, else its last 1xx, else the implicit 200 -/
def scriptCode (s : Script) : Nat :=
  match s.status with
  | some c => c
  | none => match s.info.getLast? with
    | some i => i
    | none => 200

theorem bwCode_script (s : Script) (n : Nat) (c : Option Caps) (f : Bool) :
    bwCode { resp := scriptResp s, invoked := n, seen := c, hijacked := false, flushed := f, infos := s.info,
             explicit := s.status.isSome } = scriptCode s := by
  unfold bwCode scriptCode scriptResp
  cases s.status <;> rfl

/-- **Which responses lose their body behind a Buffer** (documented Buffer behaviour: `expectBody`, gRPC support).  Exactly
those whose recorded code is 1xx, 204 or 304, that carry `Content-Length: 0`, or a non-empty `Grpc-Status` other than "0" … -/
theorem C20_expectBody_false_iff (c : Nat) (hs : List Header) :
    expectBody c hs = false ↔
      ((100 ≤ c ∧ c < 200) ∨ c = 204 ∨ c = 304 ∨ hget hs "Content-Length" = "0"
        ∨ (hget hs "Grpc-Status" ≠ "" ∧ hget hs "Grpc-Status" ≠ "0")) := by
  simp only [expectBody, Bool.and_eq_false_iff, Bool.not_eq_false', Bool.or_eq_true, Bool.and_eq_true,
    decide_eq_true_eq, beq_iff_eq, bne_iff_ne, or_assoc]

-- `hnr` is part of the statement but not used by the proof (the unused-variable linter says so)
/-- … and for those, and only those, a passing Buffer delivers an empty body instead of the handler's (status and headers are
relayed as usual). -/
theorem C20_buffer_drops_body_kinds (B : LayerCfg) (hB : B.kind = Kind.buffer) (h : Req → Script) (req : Req)
    (hpass : intervenes B req = false) (hov : overflows B (scriptResp (h req)).body.length = false)
    (hnr : (retryBuf B && netErr (scriptResp (h req)).status) = false) (hj : (h req).hijack = false) :
    (serveStack [B] h req).resp.body
      = if expectBody (scriptCode (h req)) (h req).headers then (scriptResp (h req)).body else [] := by
  rw [serveStack, serve_cons_of_passes hpass, serve, runHandler, if_neg (by simp [hj]), step_of_fits,
    relayHeaderCalls_body _ _ hB, decorate1_of_buffer hB, bwCode_script]
  · rfl
  · rfl
  · exact hov

/-- **The stateful retry loop is the stateless one.**  In a stack without rate limiters — the only layers in which a request
leaves something behind — `serveSt` (which re-runs the inner stack in the state the previous attempt left) answers exactly
like `serveStack` on the effective configuration, retries included, and leaves the effective configuration unchanged; so
`C20_retry_documented` and `C20_transparent` apply to every request of a sequence. -/
theorem C20_retry_stateful_link (stack : List LayerCfg) (st : List Nat) (h : Req → Script) (req : Req)
    (hnr : ∀ l ∈ stack, l.kind ≠ Kind.ratelimit) :
    (serveSt stack st h req false Caps.real).1 = Outcome.served (serveStack (effStack stack st) h req)
    ∧ effStack stack (serveSt stack st h req false Caps.real).2 = effStack stack st :=
  (serveSt_eq_serve stack st h req Caps.real (List.pairwise_of_forall_mem_list fun _ _ x hx _ => hnr x hx)).imp_right (· hnr)

/-- **Known gap in the code (1xx + implicit final status behind a buffer).**  `infoDomain` cannot be dropped from
`C20_transparent`: a handler that calls `WriteHeader(103)` and then writes its body without a final `WriteHeader` loses its
body behind a Buffer (`bufferWriter` keeps code 103, `expectBody` is false) while the bare handler delivers it. -/
theorem C20_info_implicit_final_counterexample :
    (serveStack [{ kind := .buffer }] (fun _ => ⟨none, [], [[104, 105]], 0, false, [103], false⟩) ⟨0⟩).resp.body = []
    ∧ (serveStack [] (fun _ => ⟨none, [], [[104, 105]], 0, false, [103], false⟩) ⟨0⟩).resp.body = [104, 105] := by
  decide +kernel

/-- **An aborted request leaves nothing behind.**  One stack instance in any admission state (`connections` in flight per
connection limiter, tokens left per rate limiter) in which every layer passes: a handler that ends with
`panic(http.ErrAbortHandler)` has run exactly once, and the next request — any request, any handler behaviour — is then served
exactly as the stateless stack in the state *before* the aborted request serves it (every connection slot is back; a rate
limiter that had at least two tokens still passes).  With `C20_transparent` on `effStack sl` this is full transparency of the
later request. -/
theorem C20_abort_restores (stack : List LayerCfg) (st : List Nat) (h : Req → Script) (req req2 : Req)
    (hp : ∀ l ∈ effStack stack st, intervenes l req = false)
    (hb : ample stack st) (hnr : ∀ l ∈ stack, retryBuf l = false) :
    (serveSt stack st h req true Caps.real).1 = Outcome.aborted 1
    ∧ (serveSt stack (serveSt stack st h req true Caps.real).2 h req2 false Caps.real).1
        = Outcome.served (serveStack (effStack stack st) h req2) := by
  rw [serveSt_aborted stack st h req Caps.real hp]
  refine ⟨rfl, ?_⟩
  rw [(serveSt_eq_serve _ _ _ _ _ (List.pairwise_of_forall_mem_list fun l hl _ _ hr => nomatch (hnr l hl).symm.trans hr)).1,
    effStack_after stack st hb]
  rfl

/-- the connection slots really are what is at stake: the state after the aborted request is the state before it,
except for the rate tokens spent (`stateAfter`: `leave (enter n)` per layer, i.e. `n+1-1` for a connection limiter) -/
theorem C20_abort_state (stack : List LayerCfg) (st : List Nat) (h : Req → Script) (req : Req)
    (hp : ∀ l ∈ effStack stack st, intervenes l req = false) :
    (serveSt stack st h req true Caps.real).2 = stateAfter stack st
    ∧ ∀ (l : LayerCfg) (n : Nat), leave l.kind (enter l.kind n) = if l.kind = Kind.ratelimit then n - 1 else n := by
  rw [serveSt_aborted stack st h req Caps.real hp]
  refine ⟨rfl, ?_⟩
  intro l n
  generalize l.kind = k
  cases k <;> rfl

/-- **The documented retry, and nothing beyond it.**  A handler that answers 502 or 504 behind buffers configured with
`Retry("IsNetworkError() && Attempts() <= 2")`: each such buffer runs its inner stack three times (attempts 1 and 2 are retried,
the third is relayed), so the handler runs `3 ^ (number of retrying buffers)` times, and the response of the last attempt is
relayed unchanged.  Every other status — 503 included — falls under `C20_transparent`: exactly one invocation. -/
theorem C20_retry_documented (stack : List LayerCfg) (h : Req → Script) (req : Req)
    (hp : ∀ l ∈ stack, intervenes l req = false ∧ overflows l (scriptResp (h req)).body.length = false)
    (hdom : infoDomain stack (h req)) (hbody : bodyDomain stack (h req)) (hj : (h req).hijack = false)
    (hst : netErr (scriptResp (h req)).status = true) :
    (serveStack stack h req).invoked = 3 ^ stack.countP retryBuf
    ∧ (serveStack stack h req).resp = decorate stack (scriptResp (h req)) := by
  rw [serveStack, serve_passing Caps.real stack h req hp (relayable_script hdom hbody)]
  simp [hj, relayed, attemptsThrough_pow _ _ hst]

/-! ## Non-vacuity: depth-4 stacks -/

private def h1 : Req → Script := fun r =>
  ⟨some 201, [("Content-Type", "text/verif"), ("X-Req-Len", toString r.bodyLen)], [[1, 2, 3], [4, 5]], 1, false, [103], false⟩
private def h2 : Req → Script := fun _ => ⟨none, [("Content-Type", "text/verif")], [[9]], 0, true, [], true⟩

private def sPass : List LayerCfg :=
  [{ kind := .trace }, { kind := .connlimit }, { kind := .rebalancer, sticky := some "sk2" }, { kind := .cbreaker }]
private def sBuf : List LayerCfg :=
  [{ kind := .roundrobin, sticky := some "sk0" }, { kind := .buffer, maxReq := 16, maxResp := 100 }, { kind := .trace }, { kind := .ratelimit }]
private def sDec : List LayerCfg :=
  [{ kind := .rebalancer, sticky := some "sk0" }, { kind := .buffer, maxResp := 64 }, { kind := .ratelimit, tripped := true },
   { kind := .cbreaker, tripped := true }]

/-- the hypotheses of `C20_transparent` hold on concrete depth-4 stacks (with and without a buffer) … -/
example : (∀ l ∈ sPass, passes l ⟨7⟩ (h1 ⟨7⟩)) ∧ (h1 ⟨7⟩).status.isSome = true := by decide +kernel
example : (∀ l ∈ sBuf, passes l ⟨16⟩ (h1 ⟨16⟩)) ∧ (h1 ⟨16⟩).status.isSome = true
    ∧ expectBody (scriptResp (h1 ⟨16⟩)).status (h1 ⟨16⟩).headers = true := by decide +kernel
/-- `bodyDomain` cannot be dropped: a 200 with `Grpc-Status: 5` keeps its body through trace but loses it behind a Buffer -/
private def hGrpc : Req → Script := fun _ =>
  ⟨some 200, [("Content-Type", "application/grpc"), ("Grpc-Status", "5")], [[7, 8]], 0, false, [], false⟩
example : (serveStack [{ kind := .trace }] hGrpc ⟨0⟩).resp.body = [7, 8]
    ∧ (serveStack [{ kind := .trace }, { kind := .buffer }] hGrpc ⟨0⟩).resp.body = []
    ∧ (serveStack [{ kind := .trace }, { kind := .buffer }] hGrpc ⟨0⟩).resp.status = 200
    ∧ (∀ l ∈ [({ kind := .trace } : LayerCfg), { kind := .buffer }], passes l ⟨0⟩ (hGrpc ⟨0⟩)) := by decide +kernel
/-- … and the conclusions are the non-trivial ones: one invocation, cookie added, flush delivered / not under a buffer, hijack works -/
example : (serveStack sPass h1 ⟨7⟩).invoked = 1 ∧ (serveStack sPass h1 ⟨7⟩).resp.status = 201
    ∧ (serveStack sPass h1 ⟨7⟩).resp.body = [1, 2, 3, 4, 5] ∧ (serveStack sPass h1 ⟨7⟩).flushed = true
    ∧ (serveStack sPass h1 ⟨7⟩).resp.headers.length = 3 ∧ (serveStack sPass h1 ⟨7⟩).infos = [103] := by decide +kernel
example : (serveStack sBuf h1 ⟨16⟩).invoked = 1 ∧ (serveStack sBuf h1 ⟨16⟩).flushed = false
    ∧ (serveStack sBuf h1 ⟨16⟩).seen = some ⟨true, false, true, true⟩ ∧ (serveStack sBuf h1 ⟨16⟩).infos = [] := by decide +kernel
example : (serveStack sBuf h2 ⟨0⟩).hijacked = true ∧ (serveStack sBuf h2 ⟨0⟩).resp = scriptResp (h2 ⟨0⟩) := by decide +kernel
/-- `C20_decisive`: two tripped layers, the outer one (rate limiter) answers through a buffer and a sticky rebalancer -/
example : (∃ l ∈ sDec, intervenes l ⟨0⟩ = true)
    ∧ (∀ l ∈ sDec, ∀ L ∈ sDec, overflows l (interventionResp L).body.length = false) := by decide +kernel
example : (serveStack sDec h1 ⟨0⟩).invoked = 0 ∧ (serveStack sDec h1 ⟨0⟩).resp.status = 429
    ∧ (serveStack sDec h1 ⟨0⟩).resp.headers.length = 4 := by decide +kernel
/-- request over the buffer's `MaxRequestBodyBytes` → 413, handler not invoked; response over `MaxResponseBodyBytes` → 500, invoked once -/
example : (serveStack sBuf h1 ⟨17⟩).resp.status = 413 ∧ (serveStack sBuf h1 ⟨17⟩).invoked = 0 := by decide +kernel
example : (serveStack [{ kind := .stream }, { kind := .buffer, maxResp := 4 }, { kind := .trace }, { kind := .connlimit }] h1 ⟨0⟩).resp.status = 500
    ∧ (serveStack [{ kind := .stream }, { kind := .buffer, maxResp := 4 }, { kind := .trace }, { kind := .connlimit }] h1 ⟨0⟩).invoked = 1 := by decide +kernel

/-- `C20_abort_restores`: connection limiter of 1 with nothing in flight, rate limiter with 2 tokens, behind a buffer and a breaker -/
private def stA : List LayerCfg :=
  [{ kind := .buffer, maxReq := 16 }, { kind := .connlimit, limit := 1 }, { kind := .cbreaker }, { kind := .ratelimit }]
example : (∀ l ∈ effStack stA [0, 0, 0, 2], intervenes l ⟨3⟩ = false) ∧ ample stA [0, 0, 0, 2]
    ∧ (∀ l ∈ stA, retryBuf l = false) := by
  refine ⟨by decide +kernel, ?_, by decide +kernel⟩
  simp [ample, stA, hd0]
example : (serveSt stA [0, 0, 0, 2] h1 ⟨3⟩ true Caps.real).1 = Outcome.aborted 1
    ∧ (serveSt stA [0, 0, 0, 2] h1 ⟨3⟩ true Caps.real).2 = [0, 0, 0, 1] := by decide +kernel
/-- … and the hypotheses matter: with the slot still taken (state 1 of limit 1) the same stack refuses -/
example : (serveSt [{ kind := .connlimit, limit := 1 }] [1] h1 ⟨0⟩ false Caps.real).1
    = Outcome.served ⟨interventionResp { kind := .connlimit, limit := 1, tripped := true }, 0, none, false, false, [], true⟩ := rfl
/-- `C20_retry_documented`: 504 behind one retrying buffer in a depth-4 stack: three runs; 503: one run; the stateful loop agrees -/
private def h504 : Req → Script := fun _ => ⟨some 504, [("Content-Type", "text/verif")], [[1]], 0, false, [], false⟩
private def h503 : Req → Script := fun _ => ⟨some 503, [("Content-Type", "text/verif")], [[1]], 0, false, [], false⟩
private def sRetry : List LayerCfg :=
  [{ kind := .trace }, { kind := .buffer, retry := true }, { kind := .ratelimit }, { kind := .rebalancer }]
example : (serveStack sRetry h504 ⟨0⟩).invoked = 3 ∧ (serveStack sRetry h504 ⟨0⟩).resp.status = 504
    ∧ (serveStack sRetry h503 ⟨0⟩).invoked = 1 ∧ (∀ l ∈ sRetry, passes l ⟨0⟩ (h503 ⟨0⟩)) := by decide +kernel
example : (serveSt sRetry [0, 0, 9, 0] h504 ⟨0⟩ false Caps.real).1 = Outcome.served (serveStack sRetry h504 ⟨0⟩)
    ∧ (serveSt sRetry [0, 0, 9, 0] h504 ⟨0⟩ false Caps.real).2 = [0, 0, 6, 0] := by decide +kernel

/-! ## Link theorems: the stack's abstraction of a layer is what the layer's own model decides

`Stack.eff` / `LayerCfg.tripped` / `LayerCfg.maxReq` reduce every deciding layer to one number or flag.  The theorems below
show, for the **actual** per-layer models (the objects of the C04, C03/C13, C05, C01/C02 and C15 theorems), that an
abstraction function from the states of that model to that number / flag commutes with the model's steps: the model refuses
exactly when `Stack.intervenes` says so, an admission moves the abstract state as `Stack.enter`, every exit as `Stack.leave`.
So the hypotheses `intervenes … = false/true` of `C20_transparent` / `C20_decisive` are *decisions of the per-layer models*
(`C20_link_decision`, `C20_transparent_composed`, `C20_decisive_composed`), not assumptions. -/

section link
open StackLink

/-- **connlimit.**  Abstraction `connAbs s src` = number of requests of `src` inside the protected handler.  After *every*
history `h` of unit-amount events (the built-in extractors, C19; arrivals, exits of both kinds, protocol misuse, rejections in
progress, any number of sources) on a limiter with limit `m`, and for a connlimit layer with `limit := m`:
1. the table entry `connections[src]` is that number (the C04 invariant);
2. `acquire` refuses iff `Stack.intervenes (Stack.eff l n)`;
3. an arrival with an unused id: admitted when the stack passes, and the number becomes `Stack.enter .connlimit n`; turned away
   (429 at once, or parked in a slow error handler) when the stack intervenes, and nothing changes;
4. a request of `src` leaving the handler — by return **or** by panic — makes it `Stack.leave .connlimit n`;
5. exits and arrivals of other sources leave it alone. -/
theorem C20_link_connlimit (m : Nat) (slow : Bool) (h : List ConnLimit.Event) (h1 : ConnLimit.amountsOne h = true)
    (src : String) (l : LayerCfg) (hk : l.kind = Kind.connlimit) (hl : l.limit = m) (req : Req) :
    let s := ConnLimit.runR (ConnLimit.SysR.init (m : Int) slow) h
    let n := connAbs s src
    ConnLimit.get s.base.st.conns src = (n : Int)
    ∧ (ConnLimit.acquire s.base.st src 1 s.base.max).isNone = intervenes (eff l n) req
    ∧ (∀ id, ConnLimit.findReq s.base.inflight id = none → ConnLimit.findRej s.rejecting id = none →
        (intervenes (eff l n) req = false →
          (ConnLimit.stepR s (.start id src 1)).2 = .base .admitted
          ∧ connAbs (ConnLimit.stepR s (.start id src 1)).1 src = enter Kind.connlimit n) ∧
        (intervenes (eff l n) req = true →
          ((ConnLimit.stepR s (.start id src 1)).2 = .base .rejected ∨ (ConnLimit.stepR s (.start id src 1)).2 = .rejecting)
          ∧ connAbs (ConnLimit.stepR s (.start id src 1)).1 src = n))
    ∧ (∀ id r how, ConnLimit.findReq s.base.inflight id = some r → ConnLimit.findRej s.rejecting id = none →
        (ConnLimit.stepR s (.finish id how)).2 = .base .released
        ∧ (r.src = src → connAbs (ConnLimit.stepR s (.finish id how)).1 src = leave Kind.connlimit n)
        ∧ (r.src ≠ src → connAbs (ConnLimit.stepR s (.finish id how)).1 src = n))
    ∧ (∀ id src' a, src' ≠ src → connAbs (ConnLimit.stepR s (.start id src' a)).1 src = n) := by
  intro s n
  have hu : ConnLimit.Unit1 s.base :=
    ConnLimit.Unit1.after_runR (s := ConnLimit.SysR.init (m : Int) slow) (ConnLimit.Unit1.init _) h (ConnLimit.amountsOne_spec h1)
  have hmax : (l.limit : Int) = s.base.max := by
    rw [hl]; exact (ConnLimit.runR_max (ConnLimit.SysR.init (m : Int) slow) h).symm
  exact ⟨hu.get_eq_count src, conn_decision hu src hk hmax req, fun id => conn_start hu hk hmax req id src,
    fun id r how hf hr => conn_finish s id r how hf hr src, fun id src' a => conn_start_other s id src' src a⟩

/-- **ratelimit.**  Abstraction `rateAbs l t src` = tokens left for `src` at the instant `t`: over the bucket set `consumeRates`
would work on (the tracked set, or a new full one at first contact / after expiry), the smallest bucket after the refill that
`consume` starts with.  (For the single-rate limiters of the C20 harness this is `availableTokens` of the one bucket:
`StackLink.minAvail_single`; the statement holds for any non-empty set of valid rates.)  For every limiter state satisfying the
reachability invariant of C13 (`C13_reachable`) at `t0 ≤ t`, a request of amount 1 at the frozen instant `t`:
1. is refused with 429 iff `Stack.intervenes (Stack.eff l n)`, i.e. iff no token is left, and admitted otherwise (never 500);
2. an admission takes one token: `Stack.enter .ratelimit n`, at the same instant;
3. a refusal takes nothing (C13's no-debit);
4. nothing is given back on exit: `Stack.leave .ratelimit = id`;
5. the invariant holds again afterwards (so 1–4 apply to the next request at `t`), and requests of other sources that do not
   evict `src`'s entry leave `src`'s tokens alone. -/
theorem C20_link_ratelimit (rates : List RL.Rate) (hv : RL.ValidRates rates) (hne : rates ≠ []) (lim : RL.Limiter) (t0 t : Nat)
    (hinv : RL.LimiterInv rates lim t0) (ht : t0 ≤ t) (src victim : String)
    (l : LayerCfg) (hk : l.kind = Kind.ratelimit) (req : Req) :
    let n := rateAbs lim t src
    let r := lim.serve t src 1 [] victim
    ((∃ d, r.2 = .tooMany d) ↔ intervenes (eff l n) req = true)
    ∧ (r.2 = .ok ↔ intervenes (eff l n) req = false)
    ∧ (r.2 = .ok → rateAbs r.1 t src = enter Kind.ratelimit n)
    ∧ (r.2 ≠ .ok → rateAbs r.1 t src = n)
    ∧ (∀ k, leave Kind.ratelimit k = k)
    ∧ RL.LimiterInv rates r.1 t
    ∧ (∀ s' a v, src ≠ s' → (lim.evictsAt t s' = true → v ≠ src) → rateAbs (lim.serve t s' a [] v).1 t src = n) := by
  intro n r
  obtain ⟨ok_iff_token, tooMany_iff_none, takes_one, takes_nothing⟩ := rate_serve rates hv hne lim t0 t hinv ht src victim
  rw [intervenes_rate l hk]
  refine ⟨?tooMany_iff_intervenes, ?ok_iff_passes, takes_one, takes_nothing, fun _ => rfl,
    RL.inv_serve rates hv lim t0 t hinv ht src 1 victim, ?other_sources⟩
  case tooMany_iff_intervenes => rw [tooMany_iff_none]; simp [n]
  case ok_iff_passes => rw [ok_iff_token]; simp [n]
  case other_sources =>
    intro s' a v hs hvict
    exact rate_serve_other lim t src s' a v hs hvict

/-- **cbreaker.**  The flag of a cbreaker layer is `brkFlag b now = (state = tripped ∧ now < until)` of the breaker model.  In the
states of the C20 harness (`brkSettled`: standby, or tripped with the fallback period running) `CB.arrive` (`activateFallback`)
answers with the fallback exactly when `Stack.intervenes` says so, passes exactly in standby (`C05_standby_passes`), and does
not change the breaker — `Stack.enter .cbreaker = Stack.leave .cbreaker = id`.  A `record`, and a `check` / `complete` that does
not trip the breaker, keep the flag at every instant: it changes only when the breaker's own condition fires (C18) or the
fallback period ends (C05).

**Outside this link:** the recovery ramp.  In state `recovering` admission is the ratio test of C12; and in state `tripped`
with the deadline reached the arrival that starts the ramp is itself answered by the fallback (last clause: `allowRequest` at
elapsed time 0 denies) although `now < until` is false — "tripped and `now < until`" describes the fallback answers only within
`brkSettled`.  The C20 harness never reaches those states (default `FallbackDuration` 10 s, requests follow at once). -/
theorem C20_link_breaker (c : CB.Cfg) (b : CB.Brk) (now : Nat) (l : LayerCfg) (hk : l.kind = Kind.cbreaker) (req : Req)
    (hdom : brkSettled b now) :
    ((CB.arrive c b now).1 = .fallback ↔ intervenes { l with tripped := brkFlag b now } req = true)
    ∧ ((CB.arrive c b now).1 = .pass ↔ b.state = .standby)
    ∧ (CB.arrive c b now).2 = b
    ∧ (∀ k, enter Kind.cbreaker k = k ∧ leave Kind.cbreaker k = k)
    ∧ (∀ t code at', brkFlag (CB.record b t code) at' = brkFlag b at')
    ∧ (∀ t orc at', (CB.checkAndSet c b t orc).2 = false → brkFlag (CB.checkAndSet c b t orc).1 at' = brkFlag b at')
    ∧ (∀ t code orc at', (CB.complete c b t code orc).2 = false → brkFlag (CB.complete c b t code orc).1 at' = brkFlag b at')
    ∧ (∀ b' : CB.Brk, b'.state = .tripped → b'.until_ ≤ now →
        (CB.arrive c b' now).1 = .fallback ∧ brkFlag b' now = false ∧ (CB.arrive c b' now).2.state = .recovering) := by
  have hint : intervenes { l with tripped := brkFlag b now } req = brkFlag b now := by
    simp [intervenes, hk]
  obtain ⟨harr, hflag⟩ := arrive_of_settled c hdom
  rw [hint, harr]
  refine ⟨?fallback_iff_flag, ?pass_iff_standby, ?breaker_unchanged, ?enter_leave, ?record_keeps_flag, ?check_keeps_flag,
    ?complete_keeps_flag, ?ramp_start⟩
  case fallback_iff_flag => cases brkFlag b now <;> simp
  case pass_iff_standby => rw [← hflag]; cases brkFlag b now <;> simp
  case breaker_unchanged => rfl
  case enter_leave => exact fun _ => ⟨rfl, rfl⟩
  case record_keeps_flag => exact fun t code => brkFlag_of_quiet (CB.record_fields b t code)
  case check_keeps_flag => exact fun t orc at' hf => brkFlag_of_quiet (CB.check_false c b t orc hf) at'
  case complete_keeps_flag => exact fun t code orc at' hf => brkFlag_of_quiet (CB.complete_false c b t code orc hf) at'
  case ramp_start =>
    intro b' hs hge
    rw [CB.arrive_tripped_after c b' now hs hge]
    refine ⟨rfl, ?_, rfl⟩
    simp [brkFlag, hs]; omega

/-- **roundrobin / rebalancer.**  The flag of a balancer layer is `balFlag ws` = "no member of positive weight" of the
round-robin model — the empty pool (`ErrNoServers`, the harness's configuration) and also a pool whose weights are all zero.
`RR.next` (`nextServer`) after any number `j` of calls since the pool last changed answers with one of its two errors — the
error `ServeHTTP` hands to the error handler: `Stack`'s 500 — exactly when `Stack.intervenes` says so, leaving the iterator
untouched (`C01_empty_error`, `C01_all_zero_error`); otherwise it selects an existing member of positive weight
(`C01_selects_positive`), never runs out of fuel; the routing part of `ServeHTTP` (`PoolM.Bal.route`, the object of C02) on a
request without sticky cookie hands exactly that error to the error handler, resp. forwards; and in no case do the weights
change: the flag is stable,
`Stack.enter = Stack.leave = id`.  So "some member has positive weight" is the non-intervening configuration.  (A request
carrying a valid sticky cookie is routed without `NextServer`, C02/C11; the stack model's requests carry none.) -/
theorem C20_link_balancer (ws : List Nat) (j : Nat) (l : LayerCfg)
    (hk : l.kind = Kind.roundrobin ∨ l.kind = Kind.rebalancer) (req : Req) :
    let s := RR.after ws j RR.It.reset
    let r := RR.next ws s
    ((r.1 = .errNoServers ∨ r.1 = .errAllZero) ↔ intervenes { l with tripped := balFlag ws } req = true)
    ∧ (ws = [] → r = (.errNoServers, s))
    ∧ (intervenes { l with tripped := balFlag ws } req = true → r.2 = s)
    ∧ (intervenes { l with tripped := balFlag ws } req = false → ∃ i, r.1 = .sel i ∧ i < ws.length ∧ 0 < ws.getD i 0)
    ∧ (∀ (b : PoolM.Bal) (sticky : Bool), b.ws = ws → b.it = s →
        (intervenes { l with tripped := balFlag ws } req = true → ∃ b', b.route sticky none = (.err r.1, b')) ∧
        (intervenes { l with tripped := balFlag ws } req = false → ∃ ref b', b.route sticky none = (.fwd ref false, b')))
    ∧ (∀ {κ : Type} (p : RR.Pool κ), p.nextServer.2.ws = p.ws ∧ p.nextServer.2.keys = p.keys)
    ∧ (∀ k, enter l.kind k = k ∧ leave l.kind k = k) := by
  intro s r
  have hint : intervenes { l with tripped := balFlag ws } req = balFlag ws := by
    rcases hk with hk | hk <;> simp [intervenes, hk]
  rw [hint]
  have hpos : balFlag ws = false → ∃ i, r.1 = .sel i ∧ i < ws.length ∧ 0 < ws.getD i 0 := by
    intro hf
    obtain ⟨i, _, hn, hi, hw⟩ := RR.next_after_sel ws ((balFlag_false_iff ws).mp hf) j
    exact ⟨i, congrArg Prod.fst hn, hi, hw⟩
  have herr : balFlag ws = true → r = (.errNoServers, s) ∨ r = (.errAllZero, s) := fun ht =>
    if he : ws = [] then .inl (by subst he; exact C01.C01_empty_error s)
    else .inr (C01.C01_all_zero_error ws he ((balFlag_true_iff ws).mp ht) s)
  refine ⟨?error_iff_flag, ?empty_pool, ?iterator_untouched, hpos, ?route, fun p => ⟨rfl, rfl⟩, ?enter_leave⟩
  case error_iff_flag =>
    refine ⟨fun he => ?_, fun ht => (herr ht).imp (congrArg Prod.fst) (congrArg Prod.fst)⟩
    by_contra hc
    obtain ⟨i, hi, _⟩ := hpos (by simpa using hc)
    rw [hi] at he; simp at he
  case empty_pool => intro he; subst he; exact C01.C01_empty_error s
  case iterator_untouched =>
    intro ht
    rcases herr ht with e | e <;> rw [e]
  case route =>
    intro b sticky hws hit
    obtain ⟨forwards_of_sel, error_of_no_sel⟩ := route_nocookie b sticky
    rw [hws, hit] at forwards_of_sel error_of_no_sel
    refine ⟨fun ht => error_of_no_sel fun i hi => ?_, fun hf => ?_⟩
    · rcases herr ht with e | e <;> rw [show RR.next ws s = r from rfl, e] at hi <;> cases hi
    · obtain ⟨i, hi, _⟩ := hpos hf
      exact forwards_of_sel i hi
  case enter_leave =>
    intro k
    rcases hk with hk | hk <;> rw [hk] <;> exact ⟨rfl, rfl⟩

/-- **buffer.**  For every configuration of the Buffer model (`maxReq ≤ 0`: no limit — the default `-1`, or `0`) and every
request (declared length or chunked), with the stack layer's `maxReq := cfg.maxReq.toNat` and `bodyLen :=` the length of the
body: when `Stack.intervenes` the Buffer model answers 413 with the fixed text — the status and bytes of
`Stack.interventionResp` — without invoking the handler (`C15_request_over_limit_413_no_invoke`); otherwise the request reaches
the handler (`C15_within_limit_reaches_handler`). -/
theorem C20_link_buffer (cfg : Buf.Cfg) (breq : Buf.Req) (script : Nat → Buf.Attempt) (l : LayerCfg)
    (hk : l.kind = Kind.buffer) :
    let l' : LayerCfg := { l with maxReq := cfg.maxReq.toNat }
    (Buf.requestOver cfg breq ↔ intervenes l' ⟨breq.body.length⟩ = true)
    ∧ (intervenes l' ⟨breq.body.length⟩ = true →
        (Buf.serve cfg breq script).invocations = 0
        ∧ (Buf.serve cfg breq script).resp.status = some (interventionResp l').status
        ∧ (Buf.serve cfg breq script).resp.body.map UInt8.toNat = (interventionResp l').body
        ∧ (Buf.serve cfg breq script).hijacked = false)
    ∧ (intervenes l' ⟨breq.body.length⟩ = false → 1 ≤ (Buf.serve cfg breq script).invocations) := by
  intro l'
  have hiff : Buf.requestOver cfg breq ↔ intervenes l' ⟨breq.body.length⟩ = true := by
    simp only [Buf.requestOver, intervenes, l', hk, Bool.and_eq_true, decide_eq_true_eq]
    omega
  refine ⟨hiff, ?_, ?_⟩
  · intro hi
    obtain ⟨h1, h2, h3, h4⟩ := C15.C15_request_over_limit_413_no_invoke cfg breq script (hiff.mpr hi)
    have hresp : interventionResp l' = ⟨413, [sniffed], ascii "Request Entity Too Large"⟩ := by
      rw [interventionResp, show l'.kind = Kind.buffer from hk]
    refine ⟨h1, by rw [h2, hresp], ?_, h4⟩
    -- `String.toList_ofList` turns the literal into its characters without decoding it; the rest is evaluation
    rw [h3, hresp, Buf.textBytes, ascii, String.toList_ofList]
    decide +kernel
  · intro hi
    exact C15.C15_within_limit_reaches_handler cfg breq script (by rw [hiff, hi]; simp)

/-- **The decision of every layer, at once.**  For a layer given by the state of its own model (`StackLink.Layer`:
connection limiter after a history, rate limiter state at a frozen instant, breaker state, pool weights, buffer configuration)
the model hands the request on (`Layer.admits`: `acquire` succeeds, `consumeRates` succeeds, `activateFallback` passes,
`NextServer` selects, the request is within `MaxRequestBodyBytes`) iff the stack model's abstraction of that layer
(`Layer.cfg`) does not intervene. -/
theorem C20_link_decision (m : Layer) (req : Req) (hok : m.ok req) :
    m.admits ↔ intervenes m.cfg req = false := by
  cases m with
  | plain l =>
    simp only [Layer.admits, Layer.cfg, true_iff]
    rcases hok with hk | hk <;> simp [intervenes, hk]
  | conn l slow hist src =>
    obtain ⟨hk, hunit⟩ := hok
    obtain ⟨_, acquire_refuses_iff, _⟩ := C20_link_connlimit l.limit slow hist hunit src l hk rfl req
    simp only [Layer.admits, Layer.cfg, connState]
    rw [← acquire_refuses_iff]
    cases ConnLimit.acquire _ src 1 _ <;> simp
  | rate l rates lim t0 t src victim =>
    obtain ⟨hk, hv, hne, hinv, ht⟩ := hok
    obtain ⟨_, ok_iff_passes, _⟩ := C20_link_ratelimit rates hv hne lim t0 t hinv ht src victim l hk req
    exact ok_iff_passes
  | brk l c b now =>
    obtain ⟨hk, hdom⟩ := hok
    obtain ⟨fallback_iff, _⟩ := C20_link_breaker c b now l hk req hdom
    simp only [Layer.admits, Layer.cfg]
    rw [← Bool.not_eq_true, ← fallback_iff]
    cases (CB.arrive c b now).1 <;> simp
  | bal l ws j =>
    obtain ⟨error_iff, _, _, selects_of_passes, _⟩ := C20_link_balancer ws j l hok req
    simp only [Layer.admits, Layer.cfg]
    constructor
    · rintro ⟨i, hi⟩
      rw [← Bool.not_eq_true, ← error_iff, hi]; simp
    · intro hpass
      obtain ⟨i, hi, _⟩ := selects_of_passes hpass
      exact ⟨i, hi⟩
  | buf l cfg breq =>
    obtain ⟨hk, hlen⟩ := hok
    obtain ⟨over_iff, _⟩ := C20_link_buffer cfg breq (fun _ => {}) l hk
    simp only [Layer.admits, Layer.cfg]
    rw [over_iff, hlen]; simp

/-- **Transparent, composed with the per-layer models.**  A stack whose layers are given by the states of their own models, all
well-formed, **none of whose models refuses the request**: the conclusion of `C20_transparent` holds for the stack model's
abstraction of it.  (The remaining hypotheses are about the handler's *response* — within the buffers' response maxima, no
retry predicate looking at a 502/504, `infoDomain`, `bodyDomain` — exactly as in `C20_transparent`.) -/
theorem C20_transparent_composed (ms : List Layer) (h : Req → Script) (req : Req)
    (hok : ∀ m ∈ ms, m.ok req) (hadm : ∀ m ∈ ms, m.admits)
    (hresp : ∀ m ∈ ms, overflows m.cfg (scriptResp (h req)).body.length = false
      ∧ (retryBuf m.cfg && netErr (scriptResp (h req)).status) = false)
    (hdom : infoDomain (ms.map Layer.cfg) (h req)) (hbody : bodyDomain (ms.map Layer.cfg) (h req)) :
    (serveStack (ms.map Layer.cfg) h req).invoked = 1
    ∧ (serveStack (ms.map Layer.cfg) h req).resp
        = (if (h req).hijack then scriptResp (h req) else decorate (ms.map Layer.cfg) (scriptResp (h req)))
    ∧ (serveStack (ms.map Layer.cfg) h req).hijacked = (h req).hijack
    ∧ (∃ c, (serveStack (ms.map Layer.cfg) h req).seen = some c ∧ c.canHijack = true
        ∧ (c.canFlush = true ∨ hasBuffer (ms.map Layer.cfg)))
    ∧ (¬ hasBuffer (ms.map Layer.cfg) →
        (serveStack (ms.map Layer.cfg) h req).flushed = (flushRequested (h req) && !(h req).hijack))
    ∧ (¬ hasBuffer (ms.map Layer.cfg) →
        (serveStack (ms.map Layer.cfg) h req).infos = (if (h req).hijack then [] else (h req).info)) := by
  apply C20_transparent _ h req _ hdom hbody
  exact List.forall_mem_map.mpr fun m hm =>
    ⟨(C20_link_decision m req (hok m hm)).mp (hadm m hm), (hresp m hm).1, (hresp m hm).2⟩

/-- **Decisive, composed with the per-layer models.**  If the model of the layer `M` refuses the request and the models of all
layers outside it hand it on, the client receives `M`'s documented response and the handler is not invoked (whatever the layers
inside `M` are). -/
theorem C20_decisive_composed (outer : List Layer) (M : Layer) (inner : List LayerCfg) (h : Req → Script) (req : Req)
    (hok : ∀ m ∈ outer, m.ok req) (hadm : ∀ m ∈ outer, m.admits) (hokM : M.ok req) (hrefuse : ¬ M.admits)
    (hlim : ∀ m ∈ outer, overflows m.cfg (interventionResp M.cfg).body.length = false)
    (hkeep : ¬ hasBuffer (outer.map Layer.cfg) ∨ expectBody (interventionResp M.cfg).status (interventionResp M.cfg).headers = true) :
    serveStack (outer.map Layer.cfg ++ M.cfg :: inner) h req
      = ⟨decorate (outer.map Layer.cfg) (interventionResp M.cfg), 0, none, false, false, [], true⟩ := by
  apply C20_decisive_at _ _ _ h req _ _ hkeep
  · exact List.forall_mem_map.mpr fun m hm => ⟨(C20_link_decision m req (hok m hm)).mp (hadm m hm), hlim m hm⟩
  · have := C20_link_decision M req hokM
    cases hi : intervenes M.cfg req with
    | true => rfl
    | false => exact absurd (this.mpr hi) hrefuse

/-! ### non-vacuity of the link theorems -/

/-- `C20_link_connlimit`: limit 1, two sources, a panic exit.  After `a` is admitted the abstract state of `s` is 1, the stack
intervenes, `b` is refused; after `a` has panicked it is 0 again and the stack passes. -/
private def connHist : List ConnLimit.Event :=
  [.start "a" "s" 1, .start "b" "s" 1, .start "c" "t" 1, .finish "a" .panic]
example : ConnLimit.amountsOne connHist = true := by decide +kernel
example : connAbs (ConnLimit.runR (ConnLimit.SysR.init 1 false) (connHist.take 3)) "s" = 1
    ∧ intervenes (eff { kind := .connlimit, limit := 1 } 1) ⟨0⟩ = true
    ∧ connAbs (ConnLimit.runR (ConnLimit.SysR.init 1 false) connHist) "s" = 0
    ∧ intervenes (eff { kind := .connlimit, limit := 1 } 0) ⟨0⟩ = false
    ∧ ConnLimit.findReq (ConnLimit.runR (ConnLimit.SysR.init 1 false) (connHist.take 3)).base.inflight "a" = some ⟨"a", "s", 1⟩
    ∧ ConnLimit.findRej (ConnLimit.runR (ConnLimit.SysR.init 1 false) (connHist.take 3)).rejecting "a" = none := by decide +kernel

/-- `C20_link_ratelimit`: the two configurations of the C20 harness.  Rate 1 per second, burst 1: one token at first contact,
none after one admitted request (the stack's "at its limit"), still none after the refusal that follows.  Burst 10^6: the
stack's `10^6` tokens. -/
private def r1 : RL.Rate := ⟨1000000000, 1, 1⟩
private def rM : RL.Rate := ⟨1000000000, 1000000, 1000000⟩
example : RL.ValidRates [r1] ∧ RL.ValidRates [rM] ∧ [r1] ≠ [] :=
  ⟨⟨by decide +kernel, by decide +kernel⟩, ⟨by decide +kernel, by decide +kernel⟩, by decide +kernel⟩
example : RL.LimiterInv [r1] (RL.Limiter.new [r1] 0) 0 := RL.inv_new _ _
example : rateAbs (RL.Limiter.new [r1] 0) 0 "s" = 1
    ∧ ((RL.Limiter.new [r1] 0).serve 0 "s" 1 [] "").2 = .ok
    ∧ rateAbs ((RL.Limiter.new [r1] 0).serve 0 "s" 1 [] "").1 0 "s" = 0
    ∧ ((((RL.Limiter.new [r1] 0).serve 0 "s" 1 [] "").1).serve 0 "s" 1 [] "").2 = .tooMany 1000000000
    ∧ rateAbs ((((RL.Limiter.new [r1] 0).serve 0 "s" 1 [] "").1).serve 0 "s" 1 [] "").1 0 "s" = 0
    ∧ rateAbs (RL.Limiter.new [rM] 0) 0 "s" = 1000000
    ∧ rateAbs ((RL.Limiter.new [rM] 0).serve 0 "s" 1 [] "").1 0 "s" = 999999 := by decide +kernel
/-- … and with two rates the abstraction is the scarcer bucket -/
example : rateAbs (RL.Limiter.new [⟨1000000000, 5, 5⟩, ⟨60000000000, 2, 2⟩] 0) 0 "s" = 2 := by decide +kernel

/-- `C20_link_breaker`: a fresh breaker and a breaker tripped until 100 seen at 50 are inside the domain; at 100 the same
breaker is outside it, and the arrival is answered by the fallback although the flag is down (start of the ramp). -/
private def bTripped : CB.Brk := { CB.Brk.init with state := .tripped, until_ := 100 }
example : brkSettled CB.Brk.init 5 ∧ brkFlag CB.Brk.init 5 = false
    ∧ brkSettled bTripped 50 ∧ brkFlag bTripped 50 = true ∧ ¬ brkSettled bTripped 100 := by decide +kernel
example : (CB.arrive C05.exCfg bTripped 50).1 = .fallback ∧ (CB.arrive C05.exCfg CB.Brk.init 5).1 = .pass
    ∧ (CB.arrive C05.exCfg bTripped 100).1 = .fallback ∧ brkFlag bTripped 100 = false := by decide +kernel

/-- `C20_link_balancer`: the empty pool and an all-zero pool raise the flag, a pool with a positive weight does not -/
example : balFlag [] = true ∧ balFlag [0, 0] = true ∧ balFlag [0, 3, 1] = false
    ∧ (RR.next [] RR.It.reset).1 = .errNoServers ∧ (RR.next [0, 0] RR.It.reset).1 = .errAllZero
    ∧ (RR.next [0, 3, 1] (RR.after [0, 3, 1] 2 RR.It.reset)).1 = .sel 1 := by decide +kernel

/-- `C20_link_buffer`: maximum 16, bodies of 17 and 16 bytes (chunked and declared); maximum `-1` / `0`: no limit -/
private def bodyOf (n : Nat) (chunked : Bool) : Buf.Req := ⟨"POST", "/p", [], chunked, List.replicate n 7⟩
example : Buf.requestOver { maxReq := 16 } (bodyOf 17 false) ∧ Buf.requestOver { maxReq := 16 } (bodyOf 17 true)
    ∧ ¬ Buf.requestOver { maxReq := 16 } (bodyOf 16 false) ∧ ¬ Buf.requestOver {} (bodyOf 17 false)
    ∧ ¬ Buf.requestOver { maxReq := 0 } (bodyOf 17 false) := by decide +kernel
example : intervenes { kind := .buffer, maxReq := (16 : Int).toNat } ⟨17⟩ = true
    ∧ intervenes { kind := .buffer, maxReq := (-1 : Int).toNat } ⟨17⟩ = false := by decide +kernel

/-- `C20_link_decision` / `C20_transparent_composed`: a depth-6 stack given by model states — a trace, a connection limiter of
2 with one request of the source inside, a rate limiter at first contact, a fresh breaker, a sticky rebalancer over one server
after three selections, a buffer of maximum 16 — and a request of 16 bytes: every model admits … -/
private def msPass : List Layer :=
  [.plain { kind := .trace },
   .conn { kind := .connlimit, limit := 2 } false [.start "a" "s" 1, .start "x" "t" 1] "s",
   .rate { kind := .ratelimit } [r1] (RL.Limiter.new [r1] 0) 0 0 "s" "",
   .brk { kind := .cbreaker } C05.exCfg CB.Brk.init 5,
   .bal { kind := .rebalancer, sticky := some "sk4" } [1] 3,
   .buf { kind := .buffer, maxResp := 100 } { maxReq := 16 } (bodyOf 16 false)]
example : (∀ m ∈ msPass, m.ok ⟨16⟩) := by
  intro m hm
  simp only [msPass, List.mem_cons, List.not_mem_nil, or_false] at hm
  rcases hm with rfl | rfl | rfl | rfl | rfl | rfl
  · exact Or.inr rfl
  · exact ⟨rfl, by decide +kernel⟩
  · exact ⟨rfl, ⟨by decide +kernel, by decide +kernel⟩, by decide +kernel, RL.inv_new _ _, Nat.le_refl _⟩
  · exact ⟨rfl, by decide +kernel⟩
  · exact Or.inr rfl
  · exact ⟨rfl, by decide +kernel⟩
example : (∀ m ∈ msPass, m.admits) := by
  intro m hm
  simp only [msPass, List.mem_cons, List.not_mem_nil, or_false] at hm
  rcases hm with rfl | rfl | rfl | rfl | rfl | rfl
  · trivial
  · show ConnLimit.acquire _ _ _ _ ≠ none; decide +kernel
  · show (RL.Limiter.serve _ _ _ _ _ _).2 = _; decide +kernel
  · show (CB.arrive _ _ _).1 = _; decide +kernel
  · exact ⟨0, by decide +kernel⟩
  · show ¬ Buf.requestOver _ _; decide +kernel
/-- … the response-side hypotheses hold, and the conclusion is the non-trivial one -/
example : (∀ m ∈ msPass, overflows m.cfg (scriptResp (h1 ⟨16⟩)).body.length = false
      ∧ (retryBuf m.cfg && netErr (scriptResp (h1 ⟨16⟩)).status) = false)
    ∧ (h1 ⟨16⟩).status.isSome = true ∧ expectBody (scriptResp (h1 ⟨16⟩)).status (h1 ⟨16⟩).headers = true := by decide +kernel
example : msPass.map Layer.cfg =
    [{ kind := .trace }, { kind := .connlimit, limit := 2 }, { kind := .ratelimit }, { kind := .cbreaker },
     { kind := .rebalancer, sticky := some "sk4" }, { kind := .buffer, maxResp := 100, maxReq := 16 }] := by decide +kernel
example : (serveStack (msPass.map Layer.cfg) h1 ⟨16⟩).invoked = 1 ∧ (serveStack (msPass.map Layer.cfg) h1 ⟨16⟩).resp.status = 201
    ∧ (serveStack (msPass.map Layer.cfg) h1 ⟨16⟩).resp.headers.length = 3 := by decide +kernel

/-- `C20_decisive_composed`: the same rate limiter after one admitted request refuses (no token left) behind the trace and the
connection limiter, which admit: 429 from the rate limiter, handler not invoked -/
private def mRefuse : Layer :=
  .rate { kind := .ratelimit } [r1] ((RL.Limiter.new [r1] 0).serve 0 "s" 1 [] "").1 0 0 "s" ""
example : mRefuse.ok ⟨0⟩ ∧ ¬ mRefuse.admits := by
  have hvalid : RL.ValidRates [r1] := ⟨by decide +kernel, by decide +kernel⟩
  have hinv : RL.LimiterInv [r1] ((RL.Limiter.new [r1] 0).serve 0 "s" 1 [] "").1 0 :=
    RL.inv_serve _ hvalid _ 0 0 (RL.inv_new _ _) (Nat.le_refl _) _ _ _
  refine ⟨⟨rfl, hvalid, by decide +kernel, hinv, Nat.le_refl _⟩, ?_⟩
  show ¬ (RL.Limiter.serve _ _ _ _ _ _).2 = _
  decide +kernel
example : (serveStack ((msPass.take 2).map Layer.cfg ++ mRefuse.cfg :: [{ kind := .buffer }]) h1 ⟨0⟩).resp.status = 429
    ∧ (serveStack ((msPass.take 2).map Layer.cfg ++ mRefuse.cfg :: [{ kind := .buffer }]) h1 ⟨0⟩).invoked = 0 := by decide +kernel

end link

/-! ## The writer handed inward (`utils.ProxyWriter`, Model/Writer.lean)

`trace`, `cbreaker` and the `Rebalancer` wrap the writer in a `utils.ProxyWriter` before calling `next`.  The theorems below are
about every nest of ProxyWriters (any depth, any field values), every base writer (with or without `Flusher` / `Hijacker`) and
every sequence of calls a handler can make (`WriteHeader` with any code incl. informational ones, `Write` with any bytes incl.
none, `Flush`, `Hijack`). -/
section writer
open Writer

/-- **Transparent call by call.**  Whatever has been written through a nest of ProxyWriters, the wrapped writer has received
exactly the handler's calls, in order, minus the `Flush` / `Hijack` calls it has no method for — every `WriteHeader`
(informational or final, repeated or not) and every `Write` (empty ones included) reaches it unchanged. -/
theorem C20_pw_transparent (base : Base) (s : St) (cs : List Call) :
    (run base s cs).seen = s.seen ++ cs.filter (deliverable base) := by rw [run_eq]

/-- The nest is invisible: the base writer receives the same calls as when the handler holds it directly (depth 0), so what
`net/http` puts on the wire (`Writer.wire`) is the same at every depth. -/
theorem C20_pw_depth_irrelevant (base : Base) (depth : Nat) (cs : List Call) :
    (run base (fresh depth) cs).seen = (run base (fresh 0) cs).seen
    ∧ wire (run base (fresh depth) cs).seen = wire (run base (fresh 0) cs).seen := by
  have : (run base (fresh depth) cs).seen = (run base (fresh 0) cs).seen := by simp [run_eq, fresh]
  exact ⟨this, by rw [this]⟩

/-- Over `net/http`'s own writer (a `Flusher` and `Hijacker`) nothing is filtered at all: what goes on the wire through a nest of
any depth is what the handler's calls put there when made on the server's writer directly. -/
theorem C20_pw_wire_exact (depth : Nat) (cs : List Call) :
    (run ⟨true, true⟩ (fresh depth) cs).seen = cs ∧ wire (run ⟨true, true⟩ (fresh depth) cs).seen = wire cs := by
  have h : (run ⟨true, true⟩ (fresh depth) cs).seen = cs := by
    rw [run_eq]
    simp only [fresh, List.nil_append]
    apply List.filter_eq_self.mpr
    intro c _; cases c <;> rfl
  exact ⟨h, by rw [h]⟩

/-- **What a ProxyWriter records.**  After any calls, every ProxyWriter of a fresh nest answers `StatusCode()` with the code of
the handler's *last* `WriteHeader` call (200 when there was none, or when it was 0) and `GetLength()` with the total number of
bytes passed to `Write`. -/
theorem C20_pw_records (base : Base) (depth : Nat) (cs : List Call) :
    ∀ p ∈ (run base (fresh depth) cs).pws, p.statusCode = recorded cs ∧ p.length = written cs := by
  intro p hp
  rw [run_eq] at hp
  simp only [fresh, List.map_replicate, List.mem_replicate] at hp
  obtain ⟨_, rfl⟩ := hp
  refine ⟨?_, by simp [foldl_record_length]⟩
  simp only [PW.statusCode, foldl_record_code, recorded]
  cases lastCode cs <;> simp

/-- The nest neither grows nor shrinks, and `Hijack` succeeds through it iff the base writer is a `Hijacker`; `Flush` on a
ProxyWriter never fails (without a nest the handler's own type assertion decides). -/
theorem C20_pw_capabilities (base : Base) (pws : List PW) :
    (∀ c, (call base pws c).1.length = pws.length)
    ∧ (call base pws .hijack).2.2 = base.hijacker
    ∧ (call base pws .flush).2.2 = (if pws = [] then base.flusher else true) := by
  refine ⟨fun c => by rw [call_eq, List.length_map], by rw [call_eq]; rfl, ?_⟩
  rw [call_eq]
  cases pws with
  | nil => exact Bool.or_false _
  | cons p ps => exact Bool.or_true _

/-- **Recorded status = status on the wire, for orderly handlers.**  If the handler sends informational codes only before its
single final `WriteHeader` (code ≥ 100), and that call precedes every `Write` / `Flush` (or there is no `WriteHeader` at all),
then the status every ProxyWriter reports — the one the breaker's metrics and the rebalancer's meters count — is the status
`net/http` sends to the client. -/
theorem C20_pw_status_is_wire_status (cs : List Call) (h : orderly cs = true) :
    recorded cs = (wire cs).final := (final_eq_recorded_of_orderly cs {} rfl h).symm

/-- … and only for those: a 1xx followed by an implicit 200, a superfluous second `WriteHeader`, and a `WriteHeader` after the
first `Write` are each recorded with a code the client never saw (recorded behaviour of the unchanged code, not flagged: the
breaker's conditions are stated over recorded codes). -/
theorem C20_pw_status_disorderly_counterexample :
    (recorded [.writeHeader 103, .write [1]] = 103 ∧ (wire [.writeHeader 103, .write [1]]).final = 200)
    ∧ (recorded [.writeHeader 200, .writeHeader 500] = 500 ∧ (wire [.writeHeader 200, .writeHeader 500]).final = 200)
    ∧ (recorded [.write [1], .writeHeader 404] = 404 ∧ (wire [.write [1], .writeHeader 404]).final = 200) := by decide +kernel

/-- **Link to the stack model.**  `Stack.Caps.proxy` — what `Model/Stack.lean` says a layer that wraps the writer in a ProxyWriter
offers inward — is what the call-level model computes: both interfaces are always there, `Hijack` succeeds and a `Flush` reaches
the wrapped writer exactly when the wrapped writer can do it. -/
theorem C20_pw_caps_link (c : Caps) (p : PW) :
    (Caps.proxy c).flushIface = true ∧ (Caps.proxy c).hijackIface = true
    ∧ (Caps.proxy c).canHijack = (call ⟨c.canFlush, c.canHijack⟩ [p] .hijack).2.2
    ∧ ((Caps.proxy c).canFlush = true ↔ (call ⟨c.canFlush, c.canHijack⟩ [p] .flush).2.1 = [.flush]) := by
  refine ⟨rfl, rfl, by rw [call_eq]; rfl, ?_⟩
  rw [call_eq]
  show c.canFlush = true ↔ (if c.canFlush = true then [Call.flush] else []) = [.flush]
  cases c.canFlush <;> simp

/-- non-vacuity: a three-deep nest over a writer without `Flusher`, a handler that sends 103, then 201, an empty and a non-empty
`Write`, flushes and tries to hijack -/
example :
    let cs : List Call := [.writeHeader 103, .writeHeader 201, .write [], .write [7, 8], .flush, .hijack]
    orderly cs = true ∧ recorded cs = 201 ∧ written cs = 2
    ∧ (run ⟨false, true⟩ (fresh 3) cs).seen = [.writeHeader 103, .writeHeader 201, .write [], .write [7, 8], .hijack]
    ∧ (wire cs).infos = [103] ∧ (wire cs).final = 201 := by decide +kernel

end writer

end C20
