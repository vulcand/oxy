import OxyModel.Proofs.Source.Shapes

/-!
# C19 — source extractors identify the source exactly

Property theorems only (helper lemmas: `OxyModel/Proofs/Source`).  Model: `OxyModel/Model/Source.lean`
(`Source.extractClientIP`, `Source.splitHostPort` = `net.SplitHostPort`, `Source.newExtractor`, …).
Strings are byte sequences (`Str = List Char`, one `Char` per byte).  "Every host:port form an HTTP
server can produce" is `joinHostPort ip port` (`net.JoinHostPort`, what `TCPAddr.String()` calls)
for `ip` of one of the three textual shapes `isIPv4`, `isIPv6`, `isIPv6Zone` and a decimal `port`.
-/
namespace C19
open Source

/-- the token of an extraction result -/
def token : Except ExtractErr (Str × Int) → Option Str
  | .ok (t, _) => some t
  | .error _ => none

/-- `client.ip` inverts `JoinHostPort` for *any* non-empty host text without brackets (host names, unusual
    zones) and any port text free of `:` `[` `]` — the precise domain on which it does -/
theorem C19_client_ip_general (ip port : Str) (hne : ip ≠ []) (hip : noBrackets ip) (hport : plain port) :
    extractClientIP (joinHostPort ip port) = .ok (ip, 1) :=
  extractClientIP_of_split (split_join ip port hip hport) hne

/-- **C19 (client.ip)**: for every peer address of IPv4, IPv6 or IPv6-with-zone shape and every
    decimal port, `client.ip` applied to the `RemoteAddr` the server forms from them yields exactly
    the address, with amount 1. -/
theorem C19_client_ip (ip port : Str) (hip : isPeerIP ip = true) (hport : isPort port = true) :
    extractClientIP (joinHostPort ip port) = .ok (ip, 1) :=
  C19_client_ip_general ip port (isPeerIP_spec hip).1 (isPeerIP_spec hip).2 (isPort_plain hport)

/-- **C19 (same token iff same address)**: two requests get the same token iff their peers have
    the same address; the ports play no role. -/
theorem C19_same_token_iff_same_address (ip₁ port₁ ip₂ port₂ : Str)
    (h₁ : isPeerIP ip₁ = true) (p₁ : isPort port₁ = true) (h₂ : isPeerIP ip₂ = true) (p₂ : isPort port₂ = true) :
    token (extractClientIP (joinHostPort ip₁ port₁)) = token (extractClientIP (joinHostPort ip₂ port₂)) ↔ ip₁ = ip₂ := by
  rw [C19_client_ip ip₁ port₁ h₁ p₁, C19_client_ip ip₂ port₂ h₂ p₂]
  simp [token]

/-- **C19 (request.host)**: `NewExtractor("request.host")` succeeds and the extractor yields the Host
    of every request as it is (also when empty), amount 1, never an error. -/
theorem C19_host (r : Req) :
    newExtractor "request.host".toList = .ok .host ∧ extract .host r = .ok (r.host, 1) :=
  ⟨newExtractor_host, rfl⟩

/-- **C19 (request.host reads the Host only)**: whatever `req.URL.Host` is — the backend address a load
    balancer in front has re-pointed the URL at, or the authority of an absolute-form request line —
    the token is the request's Host. -/
theorem C19_host_ignores_url (r : Req) (u : Str) :
    extract .host { r with urlHost := u } = .ok (r.host, 1) := rfl

/-- **C19 (request.header.X)**: for every non-empty header name, `NewExtractor("request.header."+name)`
    succeeds and the extractor yields `req.Header.Get(name)` — the first value stored under the
    canonical form of `name`, the empty string when there is none — amount 1, never an error. -/
theorem C19_header (name : Str) (hne : name ≠ []) (r : Req) :
    newExtractor (headerPrefix ++ name) = .ok (.header name) ∧
    extract (.header name) r = .ok (headerGet r.headers name, 1) :=
  ⟨newExtractor_header name hne, extract_header name r⟩

/-- what `Header.Get` is on the header lines: the value of the first line whose canonical name equals
    the canonical form of the configured name … -/
theorem C19_header_value (pre post : List (Str × Str)) (n v name : Str)
    (hn : canonKey n = canonKey name) (hpre : ∀ q ∈ pre, canonKey q.1 ≠ canonKey name) (ra host uh : Str) :
    extract (.header name) ⟨ra, host, pre ++ (n, v) :: post, uh⟩ = .ok (v, 1) := by
  rw [extract_header, headerGet_hit pre post n v name hn hpre]

/-- … and the empty token when no line has that name -/
theorem C19_header_absent (hs : List (Str × Str)) (name : Str)
    (h : ∀ q ∈ hs, canonKey q.1 ≠ canonKey name) (ra host uh : Str) :
    extract (.header name) ⟨ra, host, hs, uh⟩ = .ok ([], 1) := by
  rw [extract_header, headerGet_miss hs name h]

/-- **C19 (one unit)**: every extractor counts a request as exactly one unit. -/
theorem C19_amount_one (k : Kind) (r : Req) (tok : Str) (a : Int) (h : extract k r = .ok (tok, a)) : a = 1 := by
  cases k with
  | clientIP => exact extractClientIP_amount h
  | host => cases h; rfl
  | header n => cases h; rfl

/-- **C19 (unsupported variables are refused when the extractor is built)**: `NewExtractor` succeeds
    exactly on `client.ip`, `request.host` and `request.header.<non-empty name>`, and then returns the
    corresponding extractor; every other variable (including `request.header.` alone) is an error. -/
theorem C19_unsupported_refused (v : Str) :
    (∀ k, newExtractor v = .ok k ↔
      (v = "client.ip".toList ∧ k = .clientIP) ∨ (v = "request.host".toList ∧ k = .host) ∨
      (∃ name, name ≠ [] ∧ v = headerPrefix ++ name ∧ k = .header name)) ∧
    ((∃ e, newExtractor v = .error e) ↔
      ¬ (v = "client.ip".toList ∨ v = "request.host".toList ∨ ∃ name, name ≠ [] ∧ v = headerPrefix ++ name)) := by
  -- an error is the absence of a result, and the results are characterised by the first half
  have herr : (∃ e, newExtractor v = .error e) ↔ ¬ ∃ k, newExtractor v = .ok k := by
    cases newExtractor v <;> simp
  refine ⟨newExtractor_ok_iff v, herr.trans (not_congr ⟨fun ⟨k, hk⟩ => ?_, fun hv => ?_⟩)⟩
  · rcases (newExtractor_ok_iff v k).1 hk with ⟨h, _⟩ | ⟨h, _⟩ | ⟨n, hn, h, _⟩
    · exact .inl h
    · exact .inr (.inl h)
    · exact .inr (.inr ⟨n, hn, h⟩)
  · rcases hv with h | h | ⟨n, hn, h⟩
    · exact ⟨_, (newExtractor_ok_iff v _).2 (.inl ⟨h, rfl⟩)⟩
    · exact ⟨_, (newExtractor_ok_iff v _).2 (.inr (.inl ⟨h, rfl⟩))⟩
    · exact ⟨_, (newExtractor_ok_iff v _).2 (.inr (.inr ⟨n, hn, h, rfl⟩))⟩

/-- **C19 (which addresses `SplitHostPort` accepts)**: exactly `h:p` with `h`, `p` free of `:` `[` `]`
    and `[h]:p` with `h` free of brackets and `p` free of `:` `[` `]`; every other `RemoteAddr` (no
    port, unbalanced or misplaced brackets, extra colons, empty) is a split error. -/
theorem C19_split_exact (ra h p : Str) :
    splitHostPort ra = .ok (h, p) ↔
      (ra = h ++ ':' :: p ∧ plain h ∧ plain p) ∨ (ra = '[' :: (h ++ ']' :: ':' :: p) ∧ noBrackets h ∧ plain p) := by
  refine ⟨split_ok_spec, ?_⟩
  rintro (⟨rfl, hh, hp⟩ | ⟨rfl, hh, hp⟩)
  · exact split_plain h p hh hp
  · exact split_bracket h p hh hp

/-- **C19 (malformed addresses)**: what the current `extractClientIP` does outside the well-formed
    domain.  (1) It returns an error exactly for the empty `RemoteAddr` and for `:port` / `[]:port`
    (a well-formed split with an empty host).  (2) Every non-empty `RemoteAddr` that `SplitHostPort`
    rejects (see `C19_split_exact`) is passed through *as is* as the token, amount 1 — it is not an
    error.  (3) Every accepted split with a non-empty host yields that host. -/
theorem C19_malformed_is_error (ra : Str) :
    (extractClientIP ra = .error .noClientIP ↔
      ra = [] ∨ ∃ p, plain p ∧ (ra = ':' :: p ∨ ra = '[' :: ']' :: ':' :: p)) ∧
    (∀ e, splitHostPort ra = .error e → ra ≠ [] → extractClientIP ra = .ok (ra, 1)) ∧
    (∀ h p, splitHostPort ra = .ok (h, p) → h ≠ [] → extractClientIP ra = .ok (h, 1)) := by
  refine ⟨?_, fun e hs hne => extractClientIP_of_split_err hs hne, fun h p hs hne => extractClientIP_of_split hs hne⟩
  constructor
  · intro herr
    cases hs : splitHostPort ra with
    | error e =>
      by_cases hne : ra = []
      · exact Or.inl hne
      · rw [extractClientIP_of_split_err hs hne] at herr; cases herr
    | ok hp =>
      obtain ⟨h, p⟩ := hp
      by_cases hne : h = []
      · subst hne
        right
        rcases split_ok_spec hs with ⟨rfl, _, hp⟩ | ⟨rfl, _, hp⟩
        · exact ⟨p, hp, Or.inl rfl⟩
        · exact ⟨p, hp, Or.inr rfl⟩
      · rw [extractClientIP_of_split hs hne] at herr; cases herr
  · rintro (rfl | ⟨p, hp, rfl | rfl⟩)
    · rfl
    · exact extractClientIP_of_split_nil (split_plain [] p ⟨List.not_mem_nil, List.not_mem_nil, List.not_mem_nil⟩ hp)
    · exact extractClientIP_of_split_nil (split_bracket [] p ⟨List.not_mem_nil, List.not_mem_nil⟩ hp)

/-! ### non-vacuity, and what the three shapes look like

`rw [String.toList_ofList]` first turns every literal into its list of characters (see the note on literals in
`Proofs/Source/Shapes.lean`); the evaluation that follows runs on those lists. -/

example : isPeerIP "192.168.0.17".toList = true ∧ isPort "54321".toList = true := by
  repeat rw [String.toList_ofList]
  decide +kernel
example : isPeerIP "2001:db8::1".toList = true ∧ isPeerIP "::ffff:10.0.0.1".toList = true := by
  repeat rw [String.toList_ofList]
  decide +kernel
example : isPeerIP "fe80::1%eth0".toList = true ∧ isIPv6Zone "fe80::1%eth0".toList = true := by
  repeat rw [String.toList_ofList]
  decide +kernel
example : joinHostPort "fe80::1%eth0".toList "80".toList = "[fe80::1%eth0]:80".toList := by
  repeat rw [String.toList_ofList]
  decide +kernel
example : extractClientIP "[fe80::1%eth0]:80".toList = .ok ("fe80::1%eth0".toList, 1) := by
  repeat rw [String.toList_ofList]
  rfl
example : extractClientIP "[::1]:80".toList = .ok ("::1".toList, 1) := by  -- the repaired defect (was "[")
  repeat rw [String.toList_ofList]
  rfl
example : extractClientIP "10.0.0.1:80".toList = .ok ("10.0.0.1".toList, 1) := by
  repeat rw [String.toList_ofList]
  rfl
-- malformed: passed through as is …
example : extractClientIP "10.0.0.1".toList = .ok ("10.0.0.1".toList, 1) := by  -- no port
  repeat rw [String.toList_ofList]
  rfl
example : extractClientIP "::1".toList = .ok ("::1".toList, 1) := by  -- extra colons
  repeat rw [String.toList_ofList]
  rfl
example : extractClientIP "[::1".toList = .ok ("[::1".toList, 1) := by  -- unbalanced
  repeat rw [String.toList_ofList]
  rfl
example : extractClientIP "[::1]:80:90".toList = .ok ("[::1]:80:90".toList, 1) := by
  repeat rw [String.toList_ofList]
  rfl
example : splitHostPort "[::1]:80:90".toList = .error .tooManyColons := by
  repeat rw [String.toList_ofList]
  rfl
-- … or refused
example : extractClientIP [] = .error .noClientIP := by rfl
example : extractClientIP ":".toList = .error .noClientIP := by
  repeat rw [String.toList_ofList]
  rfl
example : extractClientIP "[]:80".toList = .error .noClientIP := by
  repeat rw [String.toList_ofList]
  rfl
example : newExtractor "request.header.".toList = .error .wrongHeader := by
  rw [newExtractor, clientVar_eq, hostVar_eq, headerPrefix_eq, String.toList_ofList]
  rfl
example : newExtractor "client.IP".toList = .error .unsupported := by
  rw [newExtractor, clientVar_eq, hostVar_eq, headerPrefix_eq, String.toList_ofList]
  rfl
example : extract .host ⟨"10.0.0.1:5".toList, "tenant-a.example".toList, [], "10.1.1.1:8080".toList⟩ = .ok ("tenant-a.example".toList, 1) :=
  (C19_host _).2
example : canonKey "x-fOO-bar".toList = "X-Foo-Bar".toList := by
  repeat rw [String.toList_ofList]
  decide +kernel
example : extract (.header "x-foo".toList) ⟨[], [], [("X-Other".toList, "a".toList), ("X-FOO".toList, "b".toList), ("x-foo".toList, "c".toList)], []⟩
    = .ok ("b".toList, 1) := by
  repeat rw [String.toList_ofList]
  rw [extract_header, Except.ok.injEq, Prod.mk.injEq]
  exact ⟨by decide +kernel, rfl⟩

end C19
