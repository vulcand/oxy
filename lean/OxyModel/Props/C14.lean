import OxyModel.Proofs.RateLimit.PerRequest
import OxyModel.Proofs.RateLimit.HeapLimiter
import OxyModel.Proofs.ConnLimit.NonInterference

/-!
# C14 — limiter decisions for one source are independent of all other sources

Rate limiter: `RL.Limiter.serve` (model of `TokenLimiter.consumeRates`) over `TTL.Map` (model of
`collections.TTLMap`).  `decisionsFor s l reqs` are the responses to the requests of `s` inside the
interleaved history `reqs`; `l.run (reqs.filter (·.src = s))` is what `s` gets alone.  Every request
carries the entry the TTL map's heap hands out should room have to be made (`victim`); the theorems hold
for every such choice.  Connection limiter: `ConnLimit` (C04's model).
-/
namespace C14
open RL TTL

/-- **Non-interference (rate limiter), general form.**  From any limiter state, for every interleaved
    history and every choice of eviction victims: as long as `s` itself is never the entry that is
    forgotten to make room for *another* source, the decisions for `s` are exactly those it gets when
    its requests are issued alone.  (No assumption on capacity, rates, timing or legality of victims.) -/
theorem C14_evict_others_unchanged (l : Limiter) (reqs : List Req) (s : String) (hsp : l.spares s reqs) :
    l.decisionsFor s reqs = l.run (reqs.filter (fun r => r.src = s)) := by
  rw [decisions_eq_entryRun s reqs l hsp, run_own_eq_entryRun]

/-- within capacity no request evicts anything -/
theorem C14_within_capacity_no_eviction (l : Limiter) (hnd : l.sets.keys.Nodup) (reqs : List Req)
    (hcap : (l.sets.keys ++ reqs.map (·.src)).dedup.length ≤ l.sets.capacity) : l.noEvict reqs :=
  noEvict_of_capacity (l.sets.keys ++ reqs.map (·.src)) reqs l hnd
    (fun _ hx => List.mem_append_left _ hx) (fun _ hr => List.mem_append_right _ (List.mem_map_of_mem hr)) hcap

/-- **Non-interference within capacity.**  If the sources already tracked together with the sources of
    the history are at most `capacity` many, nothing is ever evicted and every source's decisions
    equal those of its solo run — for every interleaving. -/
theorem C14_rate_noninterference (l : Limiter) (hnd : l.sets.keys.Nodup) (reqs : List Req)
    (hcap : (l.sets.keys ++ reqs.map (·.src)).dedup.length ≤ l.sets.capacity) (s : String) :
    l.decisionsFor s reqs = l.run (reqs.filter (fun r => r.src = s)) :=
  C14_evict_others_unchanged l reqs s
    (spares_of_noEvict s reqs l (C14_within_capacity_no_eviction l hnd reqs hcap))

/-- the same for a freshly constructed limiter (`ratelimit.New`) -/
theorem C14_rate_noninterference_new (rates : List Rate) (capacity : Nat) (reqs : List Req)
    (hcap : (reqs.map (·.src)).dedup.length ≤ (Limiter.new rates capacity).sets.capacity) (s : String) :
    (Limiter.new rates capacity).decisionsFor s reqs = (Limiter.new rates capacity).run (reqs.filter (fun r => r.src = s)) := by
  apply C14_rate_noninterference
  · exact List.nodup_nil
  · simpa [Limiter.new, TTL.empty, Map.keys] using hcap

/-! ### per-request rate sets (`ExtractRates`)

Every request carries the rate set its extractor yields (`[]` = the defaults); on a tracked source `serve`
runs `TokenBucketSet.Update` with it.  Same two theorems, for every assignment of rate sets to requests. -/

/-- general form with per-request rate sets -/
theorem C14_evict_others_unchanged_rates (l : Limiter) (reqs : List ReqR) (s : String) (hsp : l.sparesR s reqs) :
    l.decisionsForR s reqs = l.runR (reqs.filter (fun r => r.src = s)) := by
  rw [decisions_eq_entryRunR s reqs l hsp, runR_own_eq_entryRunR]

/-- within capacity, with per-request rate sets: whatever rate sets the requests of the other sources
    (and of `s` itself) carry, the decisions for `s` are those of its own requests issued alone -/
theorem C14_rate_noninterference_rates (l : Limiter) (hnd : l.sets.keys.Nodup) (reqs : List ReqR)
    (hcap : (l.sets.keys ++ reqs.map (·.src)).dedup.length ≤ l.sets.capacity) (s : String) :
    l.decisionsForR s reqs = l.runR (reqs.filter (fun r => r.src = s)) := by
  apply C14_evict_others_unchanged_rates
  apply sparesR_of_noEvictR
  apply noEvictR_of_capacity (l.sets.keys ++ reqs.map (·.src)) reqs l hnd
  · exact fun x hx => List.mem_append_left _ hx
  · exact fun r hr => List.mem_append_right _ (List.mem_map_of_mem hr)
  · exact hcap

/-- Relational form (the heap left abstract): when a request of an untracked source `src` finds the map
    full, then for every `victim` that satisfies `isMin` (tracked, no tracked entry expires earlier — this is a
    *hypothesis* here, discharged for the modelled heap in `C14_evict_min_only`): it is forgotten, so its next
    request starts from a new, full bucket set; the entry (bucket set *and* expiry) of every other source is exactly
    what it was; and `src` is tracked now.  Covers every way of breaking ties among equal expiries. -/
theorem C14_evict_min_only_rel (l : Limiter) (now : Nat) (src : String) (amount : Nat) (rr : List Rate) (victim : String)
    (hev : l.evictsAt now src = true) (hleg : (l.sets.get src now).1.isMin victim = true) :
    (∃ e, (l.sets.get src now).1.find? victim = some e ∧
        ∀ e' ∈ (l.sets.get src now).1.entries, e.expiry ≤ e'.expiry) ∧
    victim ≠ src ∧
    (l.serve now src amount rr victim).1.sets.find? victim = none ∧
    (∀ now' rates, (l.serve now src amount rr victim).1.current now' victim rates = BucketSet.new rates now') ∧
    (∀ s, s ≠ src → s ≠ victim → (l.serve now src amount rr victim).1.sets.find? s = l.sets.find? s) ∧
    (∃ e, (l.serve now src amount rr victim).1.sets.find? src = some e) := by
  have hnone : (l.sets.get src now).1.find? src = none := evicts_find?_none _ src hev
  obtain ⟨e, hfv, hmin⟩ := (isMin_iff _ _).1 hleg
  have hne : victim ≠ src := by
    intro h; rw [h, hnone] at hfv; cases hfv
  have hforgot : (l.serve now src amount rr victim).1.sets.find? victim = none := by
    rw [serve_find, if_neg hne, if_pos ⟨hev, rfl⟩]
  refine ⟨⟨e, hfv, hmin⟩, hne, hforgot, ?_, ?_, ?_⟩
  · intro now' rates
    rw [current_eq, hforgot]
    rfl
  · intro s hs hsv
    rw [serve_find, if_neg hs, if_neg fun h => hsv h.2.symm]
  · exact ⟨_, by rw [serve_find, if_pos rfl]⟩

/-! ### the expiry heap

`HLimiter` = the limiter whose TTL map carries the `container/heap` of `(key, expiry)` exactly as
`ttlmap.go` / `priority_queue.go` drive it (`Model/Heap.lean`: `up`, `down`, `Push`, `Pop`, `Remove`; `Update` =
`Remove` + `Push`).  The victim is the heap top, so nothing is assumed about it any more. -/

/-- map and heap agree (same `(key, expiry)` pairs, distinct keys, heap order) in every reachable state, for every
    history of `(time, source, amount, rates)` requests -/
theorem C14_heap_consistent (rates : List Rate) (capacity : Nat) (reqs : List (Nat × String × Nat × List Rate)) :
    HCons ((HLimiter.new rates capacity).after reqs) :=
  consistent_after reqs _ (consistent_new rates capacity)

/-- the heap operations keep the heap order and `Peek`/`Pop` yield a minimal element (`container/heap`) -/
theorem C14_heap_pop_isMin (h : Heap.T) (hinv : Heap.Inv h h.length) (x : Heap.Item) (hx : Heap.top h = some x) :
    (∀ y ∈ h, x.2 ≤ y.2) ∧ (x :: Heap.pop h).Perm h ∧ Heap.Inv (Heap.pop h) (Heap.pop h).length ∧
    (∀ y, Heap.Inv (Heap.push h y) (Heap.push h y).length) ∧
    (∀ k p, Heap.Inv (Heap.update h k p) (Heap.update h k p).length) ∧
    (∀ k, Heap.Inv (Heap.removeKey h k) (Heap.removeKey h k).length) := by
  refine ⟨Heap.top_le_all h hinv x hx, Heap.pop_perm h x hx, ?_, ?_, fun k p => Heap.update_inv h k p hinv,
    fun k => Heap.removeKey_inv h k hinv⟩
  · rw [Heap.pop_length]; exact Heap.pop_inv h hinv
  · intro y; rw [Heap.push_length]; exact Heap.push_inv h y hinv

/-- **Over capacity: only the entry nearest to expiry is forgotten.**  In every state in which map and heap
    agree (`C14_heap_consistent`: every reachable state), when a request of an untracked source `src` finds the map
    full, the entry `v` the modelled heap hands out was tracked and *no tracked entry expires earlier*; `v ≠ src`;
    `v` is forgotten, so its next request starts from a new, full bucket set; the entry (bucket set and expiry) of
    every other source is exactly what it was; `src` is tracked now. -/
theorem C14_evict_min_only (hl : HLimiter) (hc : HCons hl) (now : Nat) (src : String) (amount : Nat) (rr : List Rate)
    (hev : hl.base.evictsAt now src = true) :
    (∃ e, (hl.base.sets.get src now).1.find? (hl.victimAt now src) = some e ∧
        ∀ e' ∈ (hl.base.sets.get src now).1.entries, e.expiry ≤ e'.expiry) ∧
    hl.victimAt now src ≠ src ∧
    (hl.serve now src amount rr).1.base.sets.find? (hl.victimAt now src) = none ∧
    (∀ now' rates, (hl.serve now src amount rr).1.base.current now' (hl.victimAt now src) rates = BucketSet.new rates now') ∧
    (∀ s, s ≠ src → s ≠ hl.victimAt now src → (hl.serve now src amount rr).1.base.sets.find? s = hl.base.sets.find? s) ∧
    (∃ e, (hl.serve now src amount rr).1.base.sets.find? src = some e) :=
  C14_evict_min_only_rel hl.base now src amount rr (hl.victimAt now src) hev (victimAt_isMin hl hc now src hev)

/-- **A forgotten source starts afresh** (history level): if `s` is the victim of this request, then along any
    further history in which it is not evicted again its decisions are exactly those of its own later requests
    on a brand-new limiter.  (Together with `C14_evict_others_unchanged` for the stretches in between this splits
    every history at the evictions of `s`.) -/
theorem C14_evicted_restarts (l : Limiter) (now : Nat) (src : String) (amount : Nat) (rr : List Rate) (s : String)
    (hev : l.evictsAt now src = true) (hleg : (l.sets.get src now).1.isMin s = true)
    (rest : List Req) (hsp : (l.serve now src amount rr s).1.spares s rest) (capacity : Nat) :
    (l.serve now src amount rr s).1.decisionsFor s rest
      = (Limiter.new l.defaults capacity).run (rest.filter (fun r => r.src = s)) := by
  have hgone := (C14_evict_min_only_rel l now src amount rr s hev hleg).2.2.1
  rw [decisions_eq_entryRun s rest _ hsp, run_own_eq_entryRun, hgone, serve_defaults]
  have : (Limiter.new l.defaults capacity).sets.find? s = none := by
    simp [Limiter.new, TTL.empty, Map.find?]
  rw [this]
  rfl

/-- **Connection limiter.**  For every interleaving of starts and finishes of any number of sources,
    the decisions taken for `src` equal those of its own sub-history run alone (proved with C04's
    model in `Proofs/ConnLimit/NonInterference.lean`). -/
theorem C14_conn_noninterference (mx : Int) (src : String) (h : List ConnLimit.Event) :
    ConnLimit.decisionsFor src (ConnLimit.Sys.init mx) h
      = ConnLimit.outs (ConnLimit.Sys.init mx) (ConnLimit.project src (ConnLimit.Sys.init mx) h) :=
  ConnLimit.conn_noninterference mx src h

/-! ### non-vacuity -/
section NonVacuity
/-- a limiter with room for two sources that tracks `a` (expiry 11 s) and `b` (expiry 13 s) -/
def l2 : Limiter :=
  (((Limiter.new [⟨1000000000, 1, 2⟩] 2).serve 0 "a" 2 [] "").1.serve 2000000000 "b" 1 [] "").1

-- a third source makes the map evict; `a` is the legal victim, `b` is not
example : l2.evictsAt 3000000000 "c" = true ∧ (l2.sets.get "c" 3000000000).1.isMin "a" = true
    ∧ (l2.sets.get "c" 3000000000).1.isMin "b" = false := by decide +kernel
-- `b` is spared by a history in which `c` arrives (evicting `a`) and `a` comes back (evicting `b`? no: `c` expires later)
example : l2.spares "b" [⟨3000000000, "c", 1, "a"⟩, ⟨3000000000, "b", 1, ""⟩] := by
  -- `spares` is a recursive `Prop` with no `Decidable` instance; unfolded per request it is a conjunction of decidable facts
  unfold Limiter.spares Limiter.spares Limiter.spares; decide +kernel
-- within capacity: two sources, capacity two
example : ((Limiter.new [⟨1000000000, 1, 2⟩] 2).sets.keys ++
    ([⟨0, "a", 1, ""⟩, ⟨1, "b", 1, ""⟩, ⟨2, "a", 2, ""⟩] : List Req).map (·.src)).dedup.length
    ≤ (Limiter.new [⟨1000000000, 1, 2⟩] 2).sets.capacity := by decide +kernel
-- the interleaved decisions are not trivial: `a` is admitted, then refused
example : (Limiter.new [⟨1000000000, 1, 2⟩] 2).decisionsFor "a" [⟨0, "a", 1, ""⟩, ⟨1, "b", 1, ""⟩, ⟨2, "a", 2, ""⟩]
    = [.ok, .tooMany 1000000000] := by decide +kernel
-- per-request rate sets: `a` starts on 1/s burst 1, `b` uses 1/s burst 2, then `a` is switched to it and re-synced (200)
example : (Limiter.new [⟨1000000000, 1, 1⟩] 2).decisionsForR "a"
    [⟨0, "a", 1, [], ""⟩, ⟨0, "a", 1, [], ""⟩, ⟨0, "b", 1, [⟨2000000000, 1, 2⟩], ""⟩, ⟨0, "a", 1, [⟨2000000000, 1, 2⟩], ""⟩]
    = [.ok, .tooMany 1000000000, .ok] := by decide +kernel
-- a reachable state of the limiter-with-heap in which a third source makes the map evict: map and heap agree there
example : HCons ((HLimiter.new [⟨1000000000, 1, 2⟩] 2).after [(0, "a", 2, []), (2000000000, "b", 1, [])]) ∧
    ((HLimiter.new [⟨1000000000, 1, 2⟩] 2).after [(0, "a", 2, []), (2000000000, "b", 1, [])]).base.evictsAt 3000000000 "c" = true :=
  ⟨C14_heap_consistent _ _ _, by decide +kernel⟩
end NonVacuity

end C14
