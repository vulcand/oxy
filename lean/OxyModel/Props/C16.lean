import OxyModel.Proofs.Forward.Pipeline
/-!
# C16 — the forwarder relays responses faithfully and maps failures to gateway errors  (*partial*)

What is proved is about `Fwd.relay` (status / headers / body handed to the client after a successful round
trip), `Fwd.classify` (`utils.StdHandler.ServeHTTP`: error value → status) and `Fwd.stateListener`
(`forward.StateListener.ServeHTTP` over a model of Go's call / defer / panic).

**Not verified** (stdlib behaviour, exercised on real sockets by the correspondence run only): that the body
bytes are streamed unchanged for every size / chunking / flush pattern (`copyResponse`), that the proxy never
hangs or crashes, and *which* error value `http.Transport.RoundTrip` returns for which socket failure — the
table `Fwd.FailMode.kind` is an assumption, documented there and checked against the implementation on every
run. Hence the claim is labelled partial.
-/
namespace C16
open Fwd

/-- **C16, error → status, exhaustive.** `classify` is total with values in {502, 504, 499, 500}, and decides
exactly by the table of the property statement, in the order the Go code tests: a `net.Error` is 504 if it is a
timeout and 502 otherwise (whatever else it is); otherwise EOF is 502; otherwise cancellation is 499; otherwise 500. -/
theorem C16_classify_total (e : ErrInfo) :
    (classify e = 502 ∨ classify e = 504 ∨ classify e = 499 ∨ classify e = 500) ∧
    (e.isNetError = true → e.timeout = true → classify e = 504) ∧
    (e.isNetError = true → e.timeout = false → classify e = 502) ∧
    (e.isNetError = false → e.isEOF = true → classify e = 502) ∧
    (e.isNetError = false → e.isEOF = false → e.isCanceled = true → classify e = 499) ∧
    (e.isNetError = false → e.isEOF = false → e.isCanceled = false → classify e = 500) := by
  -- the tests in the order of the Go code: five ways they can go, one row of the table each
  obtain ⟨net, timeout, eof, canceled⟩ := e
  cases net
  · cases eof
    · cases canceled <;> simp [classify]  -- 500, 499
    · simp [classify]                     -- 502
  · cases timeout <;> simp [classify]     -- 502, 504

/-- **C16, the statement's table over the kinds of failure**: backend unreachable or failing before it responds
(a non-timeout network error, or EOF) → 502; response timeout → 504; client gone → 499; anything else → 500. -/
theorem C16_classify_kinds (k : ErrKind) :
    classify k.info = match k with
      | .netTimeout => 504 | .netOther => 502 | .eof => 502 | .canceled => 499 | .other => 500 := by
  cases k <;> rfl

/-- the same through the assumed failure-mode table (`FailMode.kind`): refused / reset before the head / closed
before the head → 502, header timeout → 504, client cancellation → 499, malformed response → 500 -/
theorem C16_failure_modes (m : FailMode) :
    classify m.kind.info = match m with
      | .refused => 502 | .resetBefore => 502 | .closeBefore => 502
      | .stall => 504 | .clientCancel => 499 | .garbage => 500 := by
  cases m <;> rfl

/-- **C16, relay.** Content is in the two header clauses: every end-to-end header reaches the client with all its
values in order, and none of the stdlib's hop-by-hop headers does. The status and body clauses only record that
the model passes the status code and the (abstract) body descriptor through untouched — `relay` is a record
update; that the *streamed bytes* are identical for every size and chunking is stdlib behaviour: assumed,
exercised by the correspondence run (digests), not proved. -/
theorem C16_relay_identity (b : Resp) :
    (relay b).status = b.status ∧ (relay b).body = b.body ∧
    (∀ k, k ∉ hopHeaders → k ∉ named b.header → (relay b).header.lookup k = b.header.lookup k) ∧
    (∀ k, k ∈ hopHeaders → has (relay b).header k = false) := by
  exact ⟨by simp [relay], by simp [relay], lookup_relay_end_to_end b, has_relay_hop b⟩

/-- **C16, connection-state notifications are paired**: whatever the wrapped handler does — return, or panic
with any value (`http.ErrAbortHandler` when forwarding is aborted midway) — the listener sees exactly
`connected` then `disconnected`, and the handler's outcome is passed on unchanged (a panic keeps propagating to
the server, which recovers it). -/
theorem C16_listener_paired (o : Outcome) :
    (stateListener o).1 = [.connected, .disconnected] ∧ (stateListener o).2 = o := by
  cases o <;> simp [stateListener, stateListenerBody, execBody]

/-- **C16, failure after the response head** (reset after the head, abort during body copy). The backend
delivers `sent < bodyLen` body bytes. Then: the head the client was already sent is the backend's (status, end-to-end
headers — `relay b`), the transfer is not completed, the handler ends by panicking (`http.ErrAbortHandler`, which the
server recovers) — and the state listener still reports exactly `connected, disconnected`, passing the panic on. -/
theorem C16_abort_after_head (b : Resp) (bodyLen sent : Nat) (h : sent < bodyLen) :
    (relayOutcome b bodyLen (some sent)).1 = relay b ∧ (relayOutcome b bodyLen (some sent)).1.status = b.status ∧
    (relayOutcome b bodyLen (some sent)).2.1 = false ∧
    (∃ v, (relayOutcome b bodyLen (some sent)).2.2 = .panic v) ∧
    (stateListener (relayOutcome b bodyLen (some sent)).2.2).1 = [.connected, .disconnected] ∧
    (stateListener (relayOutcome b bodyLen (some sent)).2.2).2 = (relayOutcome b bodyLen (some sent)).2.2 := by
  have e : relayOutcome b bodyLen (some sent) = (relay b, false, .panic "net/http: abort Handler") := by
    simp [relayOutcome, h]
  rw [e]
  exact ⟨rfl, by simp [relay], rfl, ⟨_, rfl⟩, (C16_listener_paired _).1, (C16_listener_paired _).2⟩

/-- and a complete transfer ends with a normal return -/
theorem C16_complete_transfer (b : Resp) (bodyLen : Nat) :
    relayOutcome b bodyLen none = (relay b, true, .ret) ∧
    (∀ sent, bodyLen ≤ sent → relayOutcome b bodyLen (some sent) = (relay b, true, .ret)) := by
  refine ⟨rfl, fun sent hs => ?_⟩
  simp [relayOutcome, Nat.not_lt.mpr hs]

/-- over any sequence of requests: every `connected` is followed by exactly one `disconnected`. (Sequential
composition. For concurrent requests — the `presp` op — pairing *per request* is `C16_listener_paired` applied to
each call: `ServeHTTP` shares no state between calls; no interleaving semantics is modelled, the driver's expected
`k` connected / `k` disconnected is this theorem on `k` outcomes.) -/
theorem C16_listener_sequence (os : List Outcome) :
    os.flatMap (fun o => (stateListener o).1) = (List.replicate os.length [Event.connected, Event.disconnected]).flatten := by
  induction os with
  | nil => rfl
  | cons o t ih => simp [List.flatMap_cons, (C16_listener_paired o).1, ih, List.replicate_succ]

/-! non-vacuity and sensitivity -/

/-- the model is not paired by construction: the body before commit f2f1ab2 loses `disconnected` on a panic -/
example : execBody (.panic "net/http: abort Handler") stateListenerBodyOld [] = ([.connected], .panic "net/http: abort Handler") :=
  rfl
example : execBody .ret stateListenerBodyOld [] = ([.connected, .disconnected], .ret) := rfl
/-- precedence matters: an error that is both a `net.Error` timeout and EOF-like is 504, a cancelled one that is also a net error is 502 -/
example : classify ⟨true, true, true, true⟩ = 504 ∧ classify ⟨true, false, false, true⟩ = 502 := by decide
example : (relay { status := 404, header := [("Connection", ["X-Hop"]), ("X-Hop", ["1"]), ("Keep-Alive", ["5"]), ("X-Keep", ["a", "b"])],
                   body := "7:abc" }) = { status := 404, header := [("X-Keep", ["a", "b"])], body := "7:abc" } := by
  decide +kernel

end C16
