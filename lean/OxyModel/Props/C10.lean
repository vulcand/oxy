import OxyModel.Proofs.Rebal.Range
import OxyModel.Proofs.Rebal.Split

/-!
# C10 — the rebalancer shifts share only away from outliers and never starves a server

Property theorems only.  Model: `RB.Sys` with `viaRb = true` (`Model/Rebalancer.lean`): a
`Rebalancer` with scripted meters over a `RoundRobin`.  A history is any list of `RB.Op` — add /
update / remove at arbitrary points, `rate` / `ready` (every sequence of ratings and readiness flags),
`adv` (every timing), requests (each runs `adjustWeights`).  "Configured weight" of a key is
`specOf true hist k` (C02), "effective weight" is the balancer's `ServerWeight` (`Bal.weight`); by C01 the
traffic share of server `i` is `ws[i] / Σ ws`, so shares are compared cross-multiplied.
-/
namespace C10
open RB PoolM RR

/-- the rebalanced system after a history, from a fresh instance -/
def reach (sticky : Bool) (backoff : Nat) (newReady : Bool) (hist : List Op) : Sys :=
  (Sys.init true sticky backoff newReady).applyOps hist

-- `Sys.reach_spec` for the rebalanced system, stated on `reach` (see `C02.reach_spec`)
private theorem reach_spec (st : Bool) (bo : Nat) (nr : Bool) (hist : List Op) :
    (reach st bo nr hist).Inv ∧ (reach st bo nr hist).spec = specOf true hist ∧ (reach st bo nr hist).viaRb = true :=
  have ⟨hinv, href, hv, _⟩ := Sys.reach_spec true st bo nr hist
  ⟨hinv, href, hv⟩

/-- **C10 (range)**: whatever the history, a server with positive configured weight `w` has an
    effective weight `e` with `1 ≤ e ≤ max 4096 w`. -/
theorem C10_range (st : Bool) (bo : Nat) (nr : Bool) (hist : List Op) (k : Key) (w : Nat)
    (hc : specOf true hist k = some w) (hw : 0 < w) :
    ∃ e, (reach st bo nr hist).bal.weight k = some e ∧ 1 ≤ e ∧ e ≤ max 4096 w := by
  obtain ⟨hi, hr, hv⟩ := reach_spec st bo nr hist
  have hc' : (reach st bo nr hist).reb.configured k = some w :=
    (congrFun ((Sys.spec_reb hv).symm.trans hr) k).trans hc
  obtain ⟨p, hp, _, ho, he⟩ := Sys.effective_of_configured hi hv hc'
  have hb := (hi.reb hv).bounded p hp
  have hpos := (hi.reb hv).pos p hp
  refine ⟨p.cur, he, hpos (by rw [ho]; exact hw), ?_⟩
  have := hb.1
  rw [ho] at this
  rw [max_comm]; exact this

/-- **C10 (the pool stays servable)**: if some configured weight is positive, `NextServer()` selects
    a server and every request is forwarded, after every history. -/
theorem C10_servable (st : Bool) (bo : Nat) (nr : Bool) (hist : List Op) (k : Key) (w : Nat)
    (hc : specOf true hist k = some w) (hw : 0 < w) (cookie : Option Key) (mt : Option Mut) :
    (∃ i y, ((reach st bo nr hist).step .next).2 = .next (.sel i) (some y)) ∧
    (∃ y f, ((reach st bo nr hist).step (.serve cookie mt)).2 = .forwarded y f) := by
  obtain ⟨e, he, h1, _⟩ := C10_range st bo nr hist k w hc hw
  obtain ⟨hi, _, _⟩ := reach_spec st bo nr hist
  have hp : ∃ w' ∈ (reach st bo nr hist).bal.ws, 0 < w' := by
    obtain ⟨i, hik, _, hwi⟩ := (Pool.weight_some hi.bal.view).mp he
    exact ⟨e, hwi ▸ List.getElem_mem _, h1⟩
  refine ⟨?_, Sys.serve_forwarded hi hp cookie mt⟩
  obtain ⟨i, hsel, _, _⟩ := Sys.next_sel hi hp
  rw [(Sys.step_next_out hi).1, hsel]
  exact ⟨i, _, rfl⟩

/-- **C10 (at most one change per back-off interval)**: an adjustment that changes anything arms
    the timer at `now + backoff` (first part); and from any reachable state, along any continuation
    without membership changes, the effective weights stay exactly as they are for as long as the
    clock has not passed the timer (second part) — so two changes are more than a back-off apart. -/
theorem C10_once_per_backoff (st : Bool) (bo : Nat) (nr : Bool) (hist tail : List Op)
    (hna : ∀ op ∈ tail, ¬ op.isAdmin) :
    (∀ r : Reb, ∀ now, r.adjust now ≠ r → (r.adjust now).timer = (now : Int) + r.backoff ∧ r.timer < (now : Int)) ∧
    ((((reach st bo nr hist).applyOps tail).now : Int) ≤ (reach st bo nr hist).reb.timer →
      ((reach st bo nr hist).applyOps tail).bal.ws = (reach st bo nr hist).bal.ws ∧
      ((reach st bo nr hist).applyOps tail).reb.timer = (reach st bo nr hist).reb.timer) := by
  constructor
  · intro r now hne
    rw [Reb.adjust_eq] at hne ⊢
    split at hne
    · rename_i hd; rw [if_pos hd]; exact ⟨rfl, hd.1.2.2⟩
    · exact absurd rfl hne
  · obtain ⟨hi, _, _⟩ := reach_spec st bo nr hist
    exact Sys.frozen_until_timer tail hi hna

/-- **C10 (share never up under a mixed marking)**: when a request's adjustment sees a mixed marking
    (some servers rated outliers, some good), the effective weight `e'ᵢ` of every server not rated
    good satisfies `e'ᵢ · Σe ≤ eᵢ · Σe'` — whatever the ratings (negative ones included), readiness,
    timer and history. -/
theorem C10_mixed_share_not_up (st : Bool) (bo : Nat) (nr : Bool) (hist : List Op) (cookie : Option Key)
    (mt : Option Mut) (i : Nat)
    (hm : (reach st bo nr hist).reb.marks.2 = true)
    (hbad : (reach st bo nr hist).reb.marks.1[i]? = some false) :
    ((reach st bo nr hist).step (.serve cookie mt)).1.bal.ws.getD i 0 * (reach st bo nr hist).bal.ws.sum
      ≤ (reach st bo nr hist).bal.ws.getD i 0 * ((reach st bo nr hist).step (.serve cookie mt)).1.bal.ws.sum := by
  obtain ⟨hi, _, hv⟩ := reach_spec st bo nr hist
  exact (Sys.serve_share hi hv hm hbad cookie mt).1

/-- **C10 ("some server is rated an outlier" is a mixed marking)**: with non-negative ratings
    (failure ratios, latencies) the zero sentinel / median guarantee that at least one server is
    rated good, so whenever some server is rated an outlier the adjustment that runs is the marked
    one to which `C10_mixed_share_not_up` and `C10_outlier_loses_partial` apply — never `convergeWeights`. -/
theorem C10_outlier_means_mixed (r : Reb) (hnn : ∀ p ∈ r.servers, 0 ≤ p.rating) (i : Nat)
    (hbad : r.marks.1[i]? = some false) : r.marks.2 = true := by
  have hnn' : ∀ v ∈ r.servers.map (·.rating), 0 ≤ v := by
    intro v hv
    obtain ⟨p, hp, rfl⟩ := List.mem_map.mp hv
    exact hnn p hp
  unfold Reb.marks at hbad ⊢
  exact markServers_mixed _ hnn' i hbad

/-
Full clause: "an adjustment made while some servers are rated as outliers never increases the traffic
share of any outlier", for whatever ratings.  With *negative* ratings every server can be rated an
outlier; then `convergeWeights` runs and the share of an outlier can rise
(`C10_negative_ratings_counterexample`).  Ratings of the built-in meter are ratios in [0,1]; the clause
is proved for non-negative ratings, the hypothesis being explicit.
-/
/-- **C10 (an outlier's share never goes up)**: with non-negative ratings, whenever server `i` is rated
    an outlier at a request, its effective weight `e'ᵢ` after the request satisfies
    `e'ᵢ · Σe ≤ eᵢ · Σe'` — whatever the readiness, timer and history. -/
theorem C10_outlier_share_not_up (st : Bool) (bo : Nat) (nr : Bool) (hist : List Op) (cookie : Option Key)
    (mt : Option Mut) (i : Nat)
    (hnn : ∀ p ∈ (reach st bo nr hist).reb.servers, 0 ≤ p.rating)
    (hbad : (reach st bo nr hist).reb.marks.1[i]? = some false) :
    ((reach st bo nr hist).step (.serve cookie mt)).1.bal.ws.getD i 0 * (reach st bo nr hist).bal.ws.sum
      ≤ (reach st bo nr hist).bal.ws.getD i 0 * ((reach st bo nr hist).step (.serve cookie mt)).1.bal.ws.sum :=
  C10_mixed_share_not_up st bo nr hist cookie mt i (C10_outlier_means_mixed _ hnn i hbad) hbad

/-- with ratings −1, −1 both servers are rated outliers (no mixed marking), the request converges the
    weights [4, 1] back to [1, 1], and the share of the second server — rated an outlier — rises from
    1/5 to 1/2 -/
theorem C10_negative_ratings_counterexample :
    let a : URL := ⟨"http", "a", "/", "", ""⟩
    let b : URL := ⟨"http", "b", "/", "", ""⟩
    let s := reach false 1000 true [.upsert a (some 1), .upsert b (some 1), .rate b.key (1 / 2), .serve none none,
      .rate a.key (-1), .rate b.key (-1), .adv 1001]
    s.bal.ws = [4, 1] ∧ s.reb.marks = ([false, false], false) ∧
    (s.step (.serve none none)).1.bal.ws = [1, 1] := by
  decide +kernel

/-- **C10 (membership / configured-weight change restores the configured weights)**: right after a
    successful add, update or remove every effective weight equals the configured one, and the timer
    is already expired (`now − 1s`), so the next request may adjust again. -/
theorem C10_membership_restores (st : Bool) (bo : Nat) (nr : Bool) (hist : List Op) (op : Op)
    (hadm : op.isAdmin) (hok : ((reach st bo nr hist).step op).2 = .ok) (k : Key) :
    ((reach st bo nr hist).step op).1.bal.weight k = specOf true (hist ++ [op]) k ∧
    ((reach st bo nr hist).step op).1.reb.timer = ((reach st bo nr hist).now : Int) - second := by
  obtain ⟨hi, hr, hv⟩ := reach_spec st bo nr hist
  obtain ⟨_, href, hsame⟩ := Sys.step_spec hi op
  have hv' : ((reach st bo nr hist).step op).1.viaRb = true := by rw [hsame.viaRb]; exact hv
  have hconf : ((reach st bo nr hist).step op).1.reb.configured k = specOf true (hist ++ [op]) k := by
    rw [← Sys.spec_reb hv', href, specOf_append_one, hv, hr]
  rw [← hconf]
  generalize reach st bo nr hist = s at *
  have hinv := hi.reb hv
  suffices h : (s.step op).1.reb.Restored s.now s.reb.backoff from ⟨h.weight k, h.timer⟩
  have hup : ∀ u w, (s.upserted u w).reb.Restored s.now s.reb.backoff := fun u w => by
    rw [Sys.upserted_reb hv]; exact (Reb.upsert_spec hinv s.now u w).1
  cases op with
  | upsert u w =>
    -- no option, a weight ≥ 0, a negative weight (refused)
    rcases w with _ | w | w
    · exact hup u none
    · exact hup u (some w)
    · cases hok
  | upsertFailing u w =>
    rw [Sys.step_upsertFailing] at hok ⊢
    split
    · rename_i hc; rw [if_pos hc] at hok; cases hok
    · exact hup u w
  | remove u =>
    rw [Sys.step_remove_reb hv] at hok ⊢
    cases hrm : s.reb.remove s.now u with
    | none => rw [hrm] at hok; cases hok
    | some r' => exact (Reb.remove_spec hinv hrm).1
  | next => exact hadm.elim
  | serve c m => exact hadm.elim
  | rate k' v => exact hadm.elim
  | ready k' v => exact hadm.elim
  | adv ns => exact hadm.elim

/-- **C10 (the timer is never more than one back-off ahead)**: after every history
    `timer ≤ now + backoff`; hence once the clock has advanced by more than the back-off, the timer
    has expired whatever happened before. -/
theorem C10_timer_bound (st : Bool) (bo : Nat) (nr : Bool) (hist : List Op) (d : Nat) :
    (reach st bo nr hist).reb.timer ≤ ((reach st bo nr hist).now : Int) + (reach st bo nr hist).reb.backoff ∧
    ((reach st bo nr hist).reb.backoff < d →
      (reach st bo nr (hist ++ [.adv d])).reb.timer < ((reach st bo nr (hist ++ [.adv d])).now : Int)) := by
  obtain ⟨hi, _, _⟩ := reach_spec st bo nr hist
  refine ⟨hi.timer, ?_⟩
  intro hd
  have e : reach st bo nr (hist ++ [.adv d]) = ((reach st bo nr hist).step (.adv d)).1 := by
    unfold reach Sys.applyOps; rw [List.foldl_append]; rfl
  rw [e]
  have := hi.timer
  show (reach st bo nr hist).reb.timer < (((reach st bo nr hist).now + d : Nat) : Int)
  omega

/-
Full clause: "a server that remains an outlier while all meters are ready loses share within two
back-off intervals unless every *other server* is already at the cap".  The code lets only servers
rated *good* grow (`setMarkedWeights`), so with two outliers and all good servers at the cap the
outlier keeps its share although the other outlier is far below the cap
(`C10_outlier_loses_counterexample`; recorded as known finding `outlier_unless_only_good`).  Proved:
the clause with "every other server" read as "every other server rated good" — the hypothesis
`hgood … hqcap` below.
-/
/-- **C10 (a persisting outlier loses share), partial**: in a reachable state with at least two
    servers, all meters ready and the timer expired, the adjustment strictly lowers the share of every
    server rated an outlier that has positive weight — provided some server *rated good* has positive
    weight and is below the cap (`4·e ≤ 4096`). -/
theorem C10_outlier_loses_partial (st : Bool) (bo : Nat) (nr : Bool) (hist : List Op) (i j : Nat) (p q p' : Rec)
    (hlen : 2 ≤ (reach st bo nr hist).reb.servers.length)
    (hready : (reach st bo nr hist).reb.metricsReady = true)
    (hexp : (reach st bo nr hist).reb.timer < ((reach st bo nr hist).now : Int))
    (hm : (reach st bo nr hist).reb.marks.2 = true)
    (hp : (reach st bo nr hist).reb.servers[i]? = some p) (hbad : (reach st bo nr hist).reb.marks.1[i]? = some false)
    (hpos : 0 < p.cur)
    (hq : (reach st bo nr hist).reb.servers[j]? = some q) (hgood : (reach st bo nr hist).reb.marks.1[j]? = some true)
    (hqpos : 0 < q.cur) (hqcap : 4 * q.cur ≤ 4096)
    (hp' : ((reach st bo nr hist).reb.adjust (reach st bo nr hist).now).servers[i]? = some p') :
    p'.cur * sumCur (reach st bo nr hist).reb.servers
      < p.cur * sumCur ((reach st bo nr hist).reb.adjust (reach st bo nr hist).now).servers :=
  (Reb.adjust_share _ _ hm hp hp' hbad).2 ⟨hlen, hready, hexp⟩ hpos ⟨j, q, hq, hgood, hqpos, hqcap⟩

/-- **C10 (… within two back-off intervals), partial — on the observable weights**: after *any* history,
    once the clock has advanced by more than one back-off (`adv d`, `backoff < d`: the timer has expired
    whatever happened before, so at the latest two back-off intervals after the server became an
    outlier), a request — any cookie, any handler — strictly lowers the traffic share of server `i`:
    `e'ᵢ · Σe < eᵢ · Σe'` on the balancer's `ServerWeight`s, provided there are at least two servers,
    all meters are ready, `i` is rated an outlier and has positive weight, and some server `j` rated
    good has positive weight below the cap. -/
theorem C10_outlier_loses_within_partial (st : Bool) (bo : Nat) (nr : Bool) (hist : List Op) (d : Nat)
    (cookie : Option Key) (mt : Option Mut) (i j e g : Nat)
    (hd : (reach st bo nr hist).reb.backoff < d)
    (hlen : 2 ≤ (reach st bo nr (hist ++ [.adv d])).reb.servers.length)
    (hready : (reach st bo nr (hist ++ [.adv d])).reb.metricsReady = true)
    (hm : (reach st bo nr (hist ++ [.adv d])).reb.marks.2 = true)
    (hbad : (reach st bo nr (hist ++ [.adv d])).reb.marks.1[i]? = some false)
    (he : (reach st bo nr (hist ++ [.adv d])).bal.ws[i]? = some e) (hpos : 0 < e)
    (hgood : (reach st bo nr (hist ++ [.adv d])).reb.marks.1[j]? = some true)
    (hg : (reach st bo nr (hist ++ [.adv d])).bal.ws[j]? = some g) (hgpos : 0 < g) (hgcap : 4 * g ≤ 4096) :
    ((reach st bo nr (hist ++ [.adv d])).step (.serve cookie mt)).1.bal.ws.getD i 0
        * (reach st bo nr (hist ++ [.adv d])).bal.ws.sum
      < e * ((reach st bo nr (hist ++ [.adv d])).step (.serve cookie mt)).1.bal.ws.sum := by
  have hexp := (C10_timer_bound st bo nr hist d).2 hd
  obtain ⟨hi, _, hv⟩ := reach_spec st bo nr (hist ++ [.adv d])
  generalize reach st bo nr (hist ++ [.adv d]) = s at *
  have hgd : s.bal.ws.getD i 0 = e := by rw [List.getD_eq_getElem?_getD, he]; rfl
  have := (Sys.serve_share hi hv hm hbad cookie mt).2 ⟨hlen, hready, hexp⟩ (hgd ▸ hpos) ⟨j, g, hgood, hg, hgpos, hgcap⟩
  rwa [hgd] at this

/-- the witness of known finding `outlier_unless_only_good`: four servers of weight 1, two of them
    rated outliers (½, ½, 0, 0); after six adjustments the weights are [1, 1, 4096, 4096]; server 0 is
    still rated an outlier, all meters are ready, the timer has expired, server 1 (another server) has
    weight 1 — far from the cap — and yet the next request leaves the share of server 0 where it was -/
theorem C10_outlier_loses_counterexample :
    let u (h : String) : URL := ⟨"http", h, "/", "", ""⟩
    let round : List Op := [.serve none none, .adv 2000]
    let s := reach false 1000 true ([.upsert (u "a") (some 1), .upsert (u "b") (some 1), .upsert (u "c") (some 1),
      .upsert (u "d") (some 1), .rate (u "a").key (1 / 2), .rate (u "b").key (1 / 2)]
      ++ round ++ round ++ round ++ round ++ round ++ round)
    s.bal.ws = [1, 1, 4096, 4096] ∧ s.reb.marks = ([false, false, true, true], true) ∧
    s.reb.metricsReady = true ∧ s.reb.timer < (s.now : Int) ∧
    (s.step (.serve none none)).1.bal.ws = [1, 1, 4096, 4096] := by
  decide +kernel

/-- **C10 (convergence within six adjustments)**: from any reachable state, six adjustments that run
    with no server rated differently from the others (meter readings may change in between) leave
    the effective weights proportional to the configured ones: `∃ g > 0, ∀ server, cur · g = orig`. -/
theorem C10_converges_in_6 (st : Bool) (bo : Nat) (nr : Bool) (hist : List Op) (r1 r2 r3 r4 r5 r6 : Reb)
    (h1 : ConvAdj (reach st bo nr hist).reb r1) (h2 : ConvAdj r1 r2) (h3 : ConvAdj r2 r3)
    (h4 : ConvAdj r3 r4) (h5 : ConvAdj r4 r5) (h6 : ConvAdj r5 r6) :
    ∃ g, 0 < g ∧ ∀ p ∈ r6.servers, p.cur * g = p.orig := by
  obtain ⟨hi, _, hv⟩ := reach_spec st bo nr hist
  have b0 : ∀ p ∈ (reach st bo nr hist).reb.servers, Bounded (4 * 1024) p := (hi.reb hv).bounded
  have b1 := h1.bounded b0
  have b2 := h2.bounded (T := 256) b1
  have b3 := h3.bounded (T := 64) b2
  have b4 := h4.bounded (T := 16) b3
  have b5 := h5.bounded (T := 4) b4
  exact h6.final b5

/-! ### non-vacuity -/

private def u (h : String) : URL := ⟨"http", h, "/", "", ""⟩
private def hist0 : List Op :=
  [.upsert (u "a") (some 1), .upsert (u "b") (some 1), .upsert (u "c") (some 3), .rate (u "b").key (1 / 2)]

-- a mixed marking: `b` is the outlier; the request's adjustment lifts the good servers ×4
example : (reach false 1000 true hist0).reb.marks = ([true, false, true], true) := by decide +kernel
example : ((reach false 1000 true hist0).step (.serve none none)).1.bal.ws = [4, 1, 12] := by decide +kernel
example : ∀ p ∈ (reach false 1000 true hist0).reb.servers, 0 ≤ p.rating := by decide +kernel
-- hypotheses of `C10_outlier_loses_partial` hold there
example : 2 ≤ (reach false 1000 true hist0).reb.servers.length ∧ (reach false 1000 true hist0).reb.metricsReady = true ∧
    (reach false 1000 true hist0).reb.timer < ((reach false 1000 true hist0).now : Int) := by decide +kernel
-- a converging adjustment (`ConvAdj`) exists: after the ratings are equal again and the back-off has passed
example : ConvAdj (reach false 1000 true (hist0 ++ [.serve none none, .rate (u "b").key 0, .adv 1001])).reb
    ((reach false 1000 true (hist0 ++ [.serve none none, .rate (u "b").key 0, .adv 1001])).reb.adjust 1001) :=
  ⟨_, 1001, rfl, by decide +kernel, by decide +kernel, by decide +kernel, by decide +kernel, rfl⟩
example : (((reach false 1000 true (hist0 ++ [.serve none none, .rate (u "b").key 0, .adv 1001])).reb.adjust 1001).servers.map
    fun p => (p.orig, p.cur)) = [(1, 1), (1, 1), (3, 3)] := by decide +kernel
-- a continuation without administration calls (`C10_once_per_backoff`), during which the clock stays below the timer
example : ∀ op ∈ [Op.serve none none, Op.adv 500, Op.rate (u "a").key 1, Op.serve none none], ¬ op.isAdmin := by
  intro op h
  simp only [List.mem_cons, List.not_mem_nil, or_false] at h
  rcases h with rfl | rfl | rfl | rfl <;> simp [Op.isAdmin]
example : (((reach false 1000 true (hist0 ++ [.serve none none])).applyOps [.adv 500, .serve none none]).now : Int)
    ≤ (reach false 1000 true (hist0 ++ [.serve none none])).reb.timer := by decide +kernel
-- hypotheses of `C10_outlier_loses_within_partial`: after `adv 1001 > backoff` server 1 is the outlier (weight 1), server 0 good below the cap
example : (reach false 1000 true (hist0 ++ [.adv 1001])).reb.marks.1[1]? = some false ∧
    (reach false 1000 true (hist0 ++ [.adv 1001])).bal.ws[1]? = some 1 ∧
    (reach false 1000 true (hist0 ++ [.adv 1001])).reb.marks.1[0]? = some true ∧
    (reach false 1000 true (hist0 ++ [.adv 1001])).bal.ws[0]? = some 1 ∧
    (reach false 1000 true hist0).reb.backoff < 1001 := by decide +kernel
-- `C10_range` / `C10_membership_restores` hypotheses
example : specOf true hist0 (u "c").key = some 3 := by decide +kernel
example : ((reach false 1000 true hist0).step (.remove (u "a"))).2 = .ok := by decide +kernel

end C10
