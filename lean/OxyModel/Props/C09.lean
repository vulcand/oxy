import OxyModel.Proofs.Locks.Sound
import OxyModel.Proofs.Locks.Counter
import OxyModel.Proofs.Locks.Check
import OxyModel.Proofs.Locks.Exec
import OxyModel.Proofs.Locks.Update
import OxyModel.Generated.LockFacts

/-!
# C09 — data-race freedom of every middleware (PARTIAL by nature)

Property: "Every middleware may serve any number of requests concurrently, together with its runtime
administration and inspection calls, without data races: no unsynchronised conflicting access to shared
state occurs and no counter update is lost."

Full statement (not provable about a pure model, kept visible):
  `∀ middleware M, ∀ interleaving es of ServeHTTP / admin / inspection calls on one instance of M
     executed by the Go runtime:  ¬ Race es v  for every shared variable v,  and every counter of M
     ends with exactly the number of increments performed`.
What is proved here:
  * `C09_lockset_sound`, `C09_no_race`: in EVERY execution admitted by the RW-lock semantics (no bound
    on threads, locks, length), if every access to `v` happens under one fixed lock `ℓ` (exclusively
    for writes), then any two conflicting accesses by different threads are separated by a release of
    `ℓ` by the first thread and a later acquisition by the second, i.e. ordered by happens-before.
  * `C09_no_lost_update`: abstract half — a counter machine whose step function *enforces* "load and
    store of one increment inside one exclusive critical section" never loses an increment.
  * `C09_no_lost_update_general`: the same WITHOUT the discipline built into the semantics: plain memory
    semantics on the lock executions; hypotheses `Guarded` and `AtomicUpdates` (each write is the store
    of a read-modify-write whose load happened in the same critical section).
  * `C09_updates_atomic`: on the regenerated facts no write site is a split update (value or guard taken
    from a load of the variable in another critical section), and every counter variable (all write
    sites one-statement read-modify-writes) has them under its lock held exclusively;
    `C09_no_lost_update_facts`: hence executions that conform to the facts lose no update of a counter
    variable.
  * `C09_discipline`: the lock facts REGENERATED from the repository's sources on every run satisfy that
    discipline for every shared variable (kernel-evaluated Boolean checker + soundness lemma).
  * `C09_race_free_partial`: the three together, for every execution that conforms to the facts.
  * `C09_race_free_instances_partial`: the end-to-end statement for executions over lock / variable
    *instances* (several breakers in one stack …): a class-level fact speaks about the lock instance of
    the object the accessed variable instance lives in.
What is missing (hence partial): that the real executions of the Go program conform to the extracted
facts (the translator, `/verif/harness/locks`, is trusted for that; exercised by `-race` stress runs),
and Go's memory model for `sync` (assumed as the `step` semantics).
-/
namespace C09
open Locks

/-- the shared variables of the generated table -/
def sharedVars : List Nat := List.range Generated.groups.length

/-- **Lockset soundness.** In every well-formed execution in which each access to `v` holds the fixed
    lock `ℓ` (exclusively when writing), two conflicting accesses to `v` by different threads have, in
    between, a release of `ℓ` by the first thread followed by an acquisition of `ℓ` by the second, one
    of the two in exclusive mode (a synchronises-with edge of the Go memory model). -/
theorem C09_lockset_sound (es pre mid post : List Ev) (t1 t2 v ℓ : Nat) (w1 w2 : Bool)
    (hwf : WellFormed es) (hg : Guarded ℓ v es)
    (hes : es = pre ++ [Ev.acc t1 v w1] ++ mid ++ [Ev.acc t2 v w2] ++ post)
    (hne : t1 ≠ t2) (hconf : w1 = true ∨ w2 = true) :
    ∃ (a b c : List Ev) (m1 m2 : Bool),
      mid = a ++ [Ev.rel t1 ℓ m1] ++ b ++ [Ev.acq t2 ℓ m2] ++ c ∧ (m1 = true ∨ m2 = true) := by
  simp only [List.append_assoc, List.singleton_append] at hes ⊢
  subst hes
  exact lockset_sound_split pre mid post t1 t2 v ℓ w1 w2 hwf hg hne hconf

/-- … hence no data race on `v` with respect to happens-before (program order ∪ unlock→later lock). -/
theorem C09_no_race (es : List Ev) (ℓ v : Nat) (hwf : WellFormed es) (hg : Guarded ℓ v es) : ¬ Race es v := by
  rintro ⟨i, j, t1, t2, w1, w2, hij, hi, hj, hne, hc, hnhb⟩
  obtain ⟨pre, mid, post, rfl, rfl, rfl⟩ := split_two hij hi hj
  obtain ⟨a, b, c, m1, m2, rfl, hm⟩ := lockset_sound_split pre mid post t1 t2 v ℓ w1 w2 hwf hg hne hc
  exact hnhb (hb_chain pre a b c post hm)

/-- **No lost update.** Every interleaving of increments (load, then store of loaded+1) performed while
    holding the lock exclusively leaves the counter at exactly the number of increments. -/
theorem C09_no_lost_update (es : List CEv) (s : CS) (h : crun true CS.init es = some s) :
    s.mem = increments es :=
  (crun_count es CS.init s h cinv_init).trans (Nat.zero_add _)

/-- **No lost update, discipline not built in.** Plain memory semantics (`vrun`: a read loads into the
    thread's register, a write stores register+1; lost updates are expressible, see the example below).
    If all accesses to `v` hold `ℓ` (exclusively for writes) and every write is the store of a
    read-modify-write whose load happened earlier in the same critical section of `ℓ`, then the final value
    is exactly the number of updates — for every well-formed interleaving. -/
theorem C09_no_lost_update_general (es : List Ev) (ℓ v : Nat) (hwf : WellFormed es) (hg : Guarded ℓ v es)
    (ha : AtomicUpdates ℓ v es) : (vrun v VS.init es).mem = writesTo v es :=
  (vrun_count v es VS.init fun _ _ _ he => store_fresh hwf hg ha he).trans (Nat.zero_add _)

/-- the regenerated table passes the discipline checker (evaluated here once, for `C09_discipline` and
    `C09_updates_atomic`) -/
theorem groups_checked : checkGroups 0 Generated.groups = true := by decide +kernel

/-- **Discipline of the repository** (regenerated facts): every shared variable has one fixed lock that
    is held at every access site, exclusively at every write site. -/
theorem C09_discipline : ∀ v ∈ sharedVars, Disciplined Generated.facts v :=
  fun v _ => checkGroups_sound groups_checked v

/-- PARTIAL, instance level: `es` ranges over lock and variable *instances* (two breakers in a stack hold
    two different mutexes of the same class at once — such an execution is well-formed here).  `vcls v` is
    the class (fact variable) of instance `v`, `obj v` the object it lives in, `lockOf o c` the instance of
    lock class `c` of object `o`; helper objects belong to the object that owns them. -/
theorem C09_race_free_instances_partial (es : List Ev) (vcls obj : Nat → Nat) (lockOf : Nat → Nat → Nat)
    (hwf : WellFormed es) (hc : ConformsI Generated.facts vcls obj lockOf es) :
    ∀ v, vcls v ∈ sharedVars → ¬ Race es v := by
  intro v hv
  obtain ⟨c, hd⟩ := C09_discipline (vcls v) hv
  exact C09_no_race es (lockOf (obj v) c) v hwf (conformsI_guarded hc hd)

/-- PARTIAL end-to-end statement: an execution that is admitted by the lock semantics and behaves as the
    generated facts say has no data race on any shared variable.  Missing for the full property: that the
    executions of the real program conform to the facts (trusted translator + `-race` runs).
    The class-level reading is the instance-level one with a single object whose lock instances are the classes. -/
theorem C09_race_free_partial (es : List Ev) (hwf : WellFormed es) (hc : Conforms Generated.facts es) :
    ∀ v ∈ sharedVars, ¬ Race es v :=
  C09_race_free_instances_partial es _ _ _ hwf hc.conformsI

/-- **Update sites of the repository** (regenerated facts): no write site is a split update, and every
    counter variable has all its write sites as one-statement read-modify-writes under one fixed lock
    held exclusively. -/
theorem C09_updates_atomic :
    (∀ f ∈ Generated.facts, f.kind ≠ 3) ∧
    ∀ v ∈ Generated.counterVars, ∃ ℓ, DisciplinedBy Generated.facts v ℓ ∧ UpdatesAtomicBy Generated.facts v ℓ := by
  -- `facts` is `groups.flatten`: the test is evaluated group by group, on the table as it is generated
  have hsplit : noSplitB Generated.facts = true := by
    rw [Generated.facts, noSplitB, List.all_flatten]; decide +kernel
  refine ⟨noSplitB_sound hsplit, fun v hv => ?_⟩
  -- the facts of `v` are those of group `v` (`isCounter_of_group`)
  have hall : ∀ v ∈ Generated.counterVars, isCounterB (Generated.groups[v]?.getD []) v = true := by decide +kernel
  obtain ⟨ℓ, hd⟩ := checkGroups_sound groups_checked v
  exact ⟨ℓ, hd, updatesAtomic_of hd (isCounter_of_group groups_checked (hall v hv))⟩

/-- PARTIAL: executions that are admitted by the lock semantics and behave as the generated facts say
    (`Conforms` for the locks held at each access, `ConformsU` for the shape of update sites) lose no
    update of any counter variable.  Missing for the full property: the same two trusted links as for
    `C09_race_free_partial`; variables that are also reset by plain stores (e.g. `RollingCounter.values`)
    are covered by the first half of `C09_updates_atomic` and by the stress totals only. -/
theorem C09_no_lost_update_facts (es : List Ev) (hwf : WellFormed es) (hc : Conforms Generated.facts es)
    (hu : ConformsU Generated.facts es) :
    ∀ v ∈ Generated.counterVars, (vrun v VS.init es).mem = writesTo v es := by
  intro v hv
  obtain ⟨ℓ, hd, ha⟩ := C09_updates_atomic.2 v hv
  exact C09_no_lost_update_general es ℓ v hwf (conformsI_guarded hc.conformsI hd) (conformsU_atomic hwf hu ha)

/-! ## Non-vacuity -/

/-- the generated sample execution is well-formed and conforms to the generated table -/
example : WellFormed Generated.exampleExec := wf_of_isSome (by decide +kernel)
example : Conforms Generated.facts Generated.exampleExec := conforms_of_check (by decide +kernel)
example : (Generated.exampleExec.any fun e => match e with | .acc _ _ _ => true | _ => false) = true := by decide +kernel

/-- two instances of lock class 0 (instances 10 and 20) held exclusively at the same time by two threads:
    well-formed at instance level -/
example : WellFormed [.acq 1 10 true, .acq 2 20 true, .acc 1 100 true, .acc 2 200 true, .rel 2 20 true, .rel 1 10 true] :=
  wf_of_isSome (by decide +kernel)

/-- plain memory semantics does lose updates when the read-modify-write is split over two critical
    sections although every access holds the lock … -/
def exSplit : List Ev :=
  [.acq 1 0 true, .acc 1 7 false, .rel 1 0 true, .acq 2 0 true, .acc 2 7 false, .rel 2 0 true,
   .acq 1 0 true, .acc 1 7 true, .rel 1 0 true, .acq 2 0 true, .acc 2 7 true, .rel 2 0 true]
example : WellFormed exSplit := wf_of_isSome (by decide +kernel)
example : Guarded 0 7 exSplit := guarded_of_check (by decide +kernel)
example : (vrun 7 VS.init exSplit).mem = 1 ∧ writesTo 7 exSplit = 2 := by decide +kernel

/-- … and not when each update stays inside one section (hypotheses of the general theorem hold) -/
def exAtomic : List Ev :=
  [.acq 1 0 true, .acc 1 7 false, .acc 1 7 true, .rel 1 0 true, .acq 2 0 true, .acc 2 7 false, .acc 2 7 true, .rel 2 0 true]
example : (vrun 7 VS.init exAtomic).mem = 2 ∧ writesTo 7 exAtomic = 2 := by decide +kernel
example : 0 < Generated.counterVars.length := by decide +kernel

/-- two threads, a write each and a read, under lock 0 (one reader section): hypotheses hold -/
def exOk : List Ev :=
  [.acq 1 0 true, .acc 1 7 true, .rel 1 0 true, .acq 2 0 false, .acc 2 7 false, .rel 2 0 false,
   .acq 2 0 true, .acc 2 7 true, .rel 2 0 true]

example : WellFormed exOk := wf_of_isSome (by decide +kernel)
example : Guarded 0 7 exOk := guarded_of_check (by decide +kernel)
example : ¬ Race exOk 7 := C09_no_race exOk 0 7 (wf_of_isSome (by decide +kernel)) (guarded_of_check (by decide +kernel))

/-- the lock semantics really excludes: a second `Lock` while the lock is held is not an execution -/
example : ¬ WellFormed [.acq 1 0 true, .acq 2 0 true] := by
  rintro ⟨σ, h⟩; cases h

/-- without the lock the model does exhibit a race … -/
example : Race [.acc 1 7 true, .acc 2 7 true] 7 := by
  refine ⟨0, 1, 1, 2, true, true, by decide, rfl, rfl, by decide, Or.inl rfl, fun h => ?_⟩
  obtain ⟨a, b, ha, hb, hab⟩ := h.adjacent rfl
  cases ha; cases hb
  rcases hab with h1 | ⟨t, l, m, h1⟩
  · cases h1
  · cases h1

/-- … and an unguarded access is rejected by the executable guard check -/
example : guardedFrom 0 7 St.init [.acq 1 0 true, .acc 1 7 true, .rel 1 0 true, .acc 2 7 true] = false := by decide +kernel

/-- a lost update needs the discipline to be broken: plain memory semantics, two unlocked increments, result 1 -/
example : (crun false CS.init [.ld 1, .ld 2, .st 1, .st 2]).map (·.mem) = some 1 := by decide +kernel
example : increments [.ld 1, .ld 2, .st 1, .st 2] = 2 := by decide +kernel

/-- under the discipline the same two increments (any admitted interleaving) give 2, and the racy
    interleaving is not an execution -/
example : (crun true CS.init [.acqW 1, .ld 1, .st 1, .relW 1, .acqW 2, .ld 2, .st 2, .relW 2]).map (·.mem) = some 2 := by decide +kernel
example : (crun true CS.init [.ld 1, .ld 2, .st 1, .st 2]).isNone = true := by decide +kernel

/-- the generated table is not empty, every numbered variable occurs in it, and the checker does reject
    an undisciplined table -/
example : Generated.groups.length = Generated.numVars ∧ 0 < Generated.numVars ∧
    Generated.facts.length = Generated.numFacts ∧ 0 < Generated.numFacts := by
  rw [Generated.facts, List.length_flatten]; decide +kernel
example : (Generated.groups.all fun g => !g.isEmpty) = true ∧ (Generated.facts.any fun f => f.write) = true := by decide +kernel
example : checkGroups 0 [[⟨0, true, 2, [], "a.go:1"⟩, ⟨0, false, 0, [(0, true)], "a.go:2"⟩]] = false := by decide +kernel
example : checkGroups 0 [[⟨0, true, 1, [(0, false)], "a.go:1"⟩, ⟨0, false, 0, [(0, false)], "a.go:2"⟩]] = false := by decide +kernel
example : checkGroups 0 [[⟨0, true, 1, [(3, true), (5, true)], "a.go:1"⟩, ⟨0, false, 0, [(5, false)], "a.go:2"⟩]] = true := by decide +kernel
example : checkVar [⟨0, true, 1, [(3, true), (5, true)], "a.go:1"⟩, ⟨1, true, 2, [], "b.go:1"⟩, ⟨0, false, 0, [(5, false)], "a.go:2"⟩] 0 = some 5 := by decide +kernel

end C09
