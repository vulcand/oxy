import OxyModel.Proofs.Buffer.Loop

/-!
# C07 — the client gets exactly one response: the final attempt's, after bounded retries

Property theorems, and the two lemmas that tie `denote` and `retryCond` (defined here) to the helper modules
(`denote_cmp`, `decision_retry_iff_cond`).  Model: `Buf.serve` (`OxyModel/Model/Buffer.lean`) and the retry expressions of
`OxyModel/Model/RetryExpr.lean` (`compile` = the predicate the Go combinators build).
`(serve …).resp` is everything `Buffer` sent to the client's `ResponseWriter`: one status, the header
map at that moment, the body bytes.  Vocabulary (`OxyModel/Proofs/Buffer/Spec.lean`): `capCode a` the
status captured for an attempt, `finalStatus a` that status with 0 read as 200, `respHeaderOf a` the
response headers it set, `bodyAllowed m a` the response kind carries a body (not HEAD / 1xx / 204 / 304 /
`Content-Length: 0` / non-zero `Grpc-Status`), `overLimit cfg a` its body exceeds the response maximum
(C15's clause), `hijackEff cfg a` it took the connection over.
-/
namespace C07
open Buf RetryExpr

/-! ## the expression language -/

/-- ordinary reading of a retry expression: Boolean connectives, `=`, `≠`, `<`, `>`, `≤`, `≥` on naturals,
    string equality; written independently of the Go combinators -/
def denote : Expr → Ctx → Prop
  | .and a b, c => denote a c ∧ denote b c
  | .or a b, c => denote a c ∨ denote b c
  | .isNetworkError, c => c.code = 502 ∨ c.code = 504
  | .cmp .attempts .eq v, c => c.attempt = v
  | .cmp .attempts .neq v, c => c.attempt ≠ v
  | .cmp .attempts .lt v, c => c.attempt < v
  | .cmp .attempts .gt v, c => c.attempt > v
  | .cmp .attempts .le v, c => c.attempt ≤ v
  | .cmp .attempts .ge v, c => c.attempt ≥ v
  | .cmp .responseCode .eq v, c => c.code = v
  | .cmp .responseCode .neq v, c => c.code ≠ v
  | .cmp .responseCode .lt v, c => c.code < v
  | .cmp .responseCode .gt v, c => c.code > v
  | .cmp .responseCode .le v, c => c.code ≤ v
  | .cmp .responseCode .ge v, c => c.code ≥ v
  | .methodEq s, c => c.method = s
  | .methodNeq s, c => c.method ≠ s

theorem denote_cmp (f : IntFn) (op : Cmp) (v : Nat) (c : Ctx) :
    denote (.cmp f op v) c ↔ cmpHolds op (f.get c) v := by
  cases f <;> cases op <;> exact Iff.rfl

/-- **C07 (standard semantics)**: for every expression of the grammar and every (attempt, response code,
    method), the predicate built from the Go combinators (`and`/`or` loops, `neq = not eq`, `le = lt || eq`,
    `ge = gt || eq`) is true exactly when the expression holds under the ordinary reading. -/
theorem C07_eval_standard (e : Expr) (c : Ctx) : compile e c = true ↔ denote e c := by
  induction e with
  | and a b iha ihb =>
    simp only [compile, andP, denote, ← iha, ← ihb]
    cases compile a c <;> cases compile b c <;> simp
  | or a b iha ihb =>
    simp only [compile, orP, denote, ← iha, ← ihb]
    cases compile a c <;> cases compile b c <;> simp
  | isNetworkError => simp [compile, isNetworkErrorP, denote]
  | cmp f op v => rw [denote_cmp]; exact cmpP_iff _ _ _ _
  | methodEq s => simp [compile, stringEQ, denote]
  | methodNeq s => simp [compile, stringEQ, notP, denote]

/-! ## the loop -/

/-- attempt `j` is followed by another invocation: it returned (no panic), did not take the connection over, its response was
    within the limit, it is not past the 10th, and the configured expression holds of it -/
def retryCond (cfg : Cfg) (req : Req) (script : Nat → Attempt) (j : Nat) : Prop :=
  ¬ panics (script j) ∧ ¬ hijackEff cfg (script j) ∧ ¬ overLimit cfg (script j) ∧ j ≤ 10 ∧
  ∃ e, cfg.retry = some e ∧ denote e ⟨j, capCode (script j), req.method⟩

private theorem decision_retry_iff_cond (cfg : Cfg) (req : Req) (script : Nat → Attempt) (j : Nat) :
    decision cfg req j (script j) = .retry ↔ retryCond cfg req script j := by
  simp only [decision_retry_iff, shouldRetry_iff, C07_eval_standard, retryCond]

/-- **C07 (at most 11 invocations)** — for every configuration, request and script; and the model's loop
    fuel is never exhausted, so it is not a restriction. -/
theorem C07_at_most_11 (cfg : Cfg) (req : Req) (script : Nat → Attempt) :
    (serve cfg req script).invocations ≤ 11 ∧ (serve cfg req script).outOfFuel = false := by
  by_cases hov : requestOver cfg req
  · obtain ⟨c, hc⟩ := serve_rejected cfg req script hov
    rw [hc]; exact ⟨Nat.zero_le _, rfl⟩
  · obtain ⟨_, _, s⟩ := serve_served cfg req script hov
    exact ⟨s.le11, s.fuel⟩

/-- **C07 (invoked once without a retry condition)**: an admitted request (body within the request maximum)
    reaches the handler exactly once when no expression is configured. -/
theorem C07_once_without_predicate (cfg : Cfg) (req : Req) (script : Nat → Attempt)
    (hadm : ¬ requestOver cfg req) (hnone : cfg.retry = none) : (serve cfg req script).invocations = 1 := by
  obtain ⟨_, _, s⟩ := serve_served cfg req script hadm
  by_cases h : (serve cfg req script).invocations = 1
  · exact h
  · -- a second invocation would mean attempt 1 satisfied `retryCond`, which names a configured expression
    have h2 : 1 < (serve cfg req script).invocations := Nat.lt_of_le_of_ne s.pos (Ne.symm h)
    obtain ⟨_, _, _, _, e, he, _⟩ := (decision_retry_iff_cond cfg req script 1).mp (s.retried 1 (Nat.le_refl _) h2)
    rw [hnone] at he; cases he

/-- **C07 (invoked again exactly after the attempts for which the expression is true)**: for an admitted
    request and every `k`, there are more than `k` invocations iff every attempt `1 … k` satisfied
    `retryCond` — in particular the expression, read with standard semantics over (attempt number, captured
    response code, request method), was true of each of them. -/
theorem C07_retry_iff_predicate (cfg : Cfg) (req : Req) (script : Nat → Attempt) (hadm : ¬ requestOver cfg req)
    (k : Nat) :
    k < (serve cfg req script).invocations ↔ ∀ j, 1 ≤ j → j ≤ k → retryCond cfg req script j := by
  obtain ⟨_, _, s⟩ := serve_served cfg req script hadm
  constructor
  · intro hlt j hj1 hjk
    exact (decision_retry_iff_cond cfg req script j).mp (s.retried j hj1 (by omega))
  · intro hall
    by_cases hlt : k < (serve cfg req script).invocations
    · exact hlt
    · exact absurd ((decision_retry_iff_cond cfg req script _).mpr (hall _ s.pos (by omega))) s.stopped

/-- **C07 (exactly the final attempt's response)**: for an admitted request let `n` be the number of
    invocations.  Unless attempt `n` panicked, took the connection over or overflowed the response maximum (C15),
    the one response handed to the client's `ResponseWriter` has attempt `n`'s status (200 if it chose none),
    exactly attempt `n`'s headers, and — for a response kind that carries a body — exactly attempt `n`'s written
    bytes in order: a function of `script n` alone, so nothing of the discarded attempts `1 … n-1` is in it.
    (Which final attempts lose their body is `C07_body_dropped_kinds`.) -/
theorem C07_final_only (cfg : Cfg) (req : Req) (script : Nat → Attempt) (hadm : ¬ requestOver cfg req)
    (hp : ¬ panics (script (serve cfg req script).invocations))
    (hh : ¬ hijackEff cfg (script (serve cfg req script).invocations))
    (ho : ¬ overLimit cfg (script (serve cfg req script).invocations)) :
    (serve cfg req script).resp.status = some (finalStatus (script (serve cfg req script).invocations)) ∧
    (serve cfg req script).resp.sentHeader =
      Header.copyInto [] (respHeaderOf (script (serve cfg req script).invocations)) ∧
    (bodyAllowed req.method (script (serve cfg req script).invocations) →
      (serve cfg req script).resp.body = (script (serve cfg req script).invocations).writes.flatten) ∧
    (serve cfg req script).hijacked = false ∧ (serve cfg req script).panicked = false := by
  obtain ⟨_, _, s⟩ := serve_served cfg req script hadm
  obtain ⟨hr, h1, h2⟩ := s.resp_eq_finalUp hp hh ho
  rw [hr]
  exact ⟨rfl, rfl, fun hb => finalBody_allowed hb, h1, h2⟩

/-- **C07 (which final attempts lose their body)** — recorded behaviour of `expectBody`, kept apart from
    `C07_final_only`: the final attempt's written bytes are withheld exactly for a HEAD request, a 1xx / 204 / 304
    status, a response header `Content-Length: 0`, or a response header `Grpc-Status` other than "" and "0"; the
    client then receives the attempt's status and headers with an empty body.  The first four are response kinds
    that carry no body by RFC 2616 §4.4; the last two drop bytes that a handler served directly by `net/http`
    would have delivered. -/
theorem C07_body_dropped_kinds (cfg : Cfg) (req : Req) (script : Nat → Attempt) (hadm : ¬ requestOver cfg req)
    (hp : ¬ panics (script (serve cfg req script).invocations))
    (hh : ¬ hijackEff cfg (script (serve cfg req script).invocations))
    (ho : ¬ overLimit cfg (script (serve cfg req script).invocations)) :
    (¬ bodyAllowed req.method (script (serve cfg req script).invocations) ↔
      (req.method = "HEAD" ∨
       (100 ≤ capCode (script (serve cfg req script).invocations) ∧ capCode (script (serve cfg req script).invocations) < 200) ∨
       capCode (script (serve cfg req script).invocations) = 204 ∨ capCode (script (serve cfg req script).invocations) = 304 ∨
       Header.get (respHeaderOf (script (serve cfg req script).invocations)) "Content-Length" = "0" ∨
       (Header.get (respHeaderOf (script (serve cfg req script).invocations)) "Grpc-Status" ≠ "" ∧
        Header.get (respHeaderOf (script (serve cfg req script).invocations)) "Grpc-Status" ≠ "0"))) ∧
    (¬ bodyAllowed req.method (script (serve cfg req script).invocations) → (serve cfg req script).resp.body = []) := by
  obtain ⟨_, _, s⟩ := serve_served cfg req script hadm
  refine ⟨not_bodyAllowed_iff _ _, fun hb => ?_⟩
  rw [(s.resp_eq_finalUp hp hh ho).1]
  exact finalBody_dropped hb

/-- **C07 (implicit 200)**: if the final attempt never chose a status, the client receives 200. -/
theorem C07_implicit_200 (cfg : Cfg) (req : Req) (script : Nat → Attempt) (hadm : ¬ requestOver cfg req)
    (hp : ¬ panics (script (serve cfg req script).invocations))
    (hh : ¬ hijackEff cfg (script (serve cfg req script).invocations))
    (ho : ¬ overLimit cfg (script (serve cfg req script).invocations))
    (hst : (script (serve cfg req script).invocations).status = none)
    (hls : (script (serve cfg req script).invocations).lateStatus = none) :
    (serve cfg req script).resp.status = some 200 := by
  rw [(C07_final_only cfg req script hadm hp hh ho).1]
  unfold finalStatus capCode
  rw [hst, hls]; simp

/-- **C07 (an empty body is delivered as empty)**: if the final attempt wrote no bytes (no `Write`, or only empty
    ones, with or without `Content-Length: 0`), the client receives that attempt's status with an empty body —
    not an error. -/
theorem C07_empty_body_empty (cfg : Cfg) (req : Req) (script : Nat → Attempt) (hadm : ¬ requestOver cfg req)
    (hp : ¬ panics (script (serve cfg req script).invocations))
    (hh : ¬ hijackEff cfg (script (serve cfg req script).invocations))
    (hemp : (script (serve cfg req script).invocations).writes.flatten = []) :
    (serve cfg req script).resp.status = some (finalStatus (script (serve cfg req script).invocations)) ∧
    (serve cfg req script).resp.body = [] := by
  have ho : ¬ overLimit cfg (script (serve cfg req script).invocations) := by
    intro ⟨h1, h2⟩
    rw [← length_flatten_eq_sumLen, hemp, List.length_nil] at h2
    omega
  obtain ⟨f1, _, f3, _⟩ := C07_final_only cfg req script hadm hp hh ho
  refine ⟨f1, ?_⟩
  by_cases hb : bodyAllowed req.method (script (serve cfg req script).invocations)
  · rw [f3 hb, hemp]
  · exact (C07_body_dropped_kinds cfg req script hadm hp hh ho).2 hb

/-- **C07 (a panicking handler)**: if the last invocation panics, `Buffer` writes nothing at all (net/http then
    aborts the connection); earlier, discarded attempts still leave nothing. -/
theorem C07_panic_nothing_written (cfg : Cfg) (req : Req) (script : Nat → Attempt) (hadm : ¬ requestOver cfg req)
    (hp : panics (script (serve cfg req script).invocations)) :
    (serve cfg req script).resp.status = none ∧ (serve cfg req script).resp.body = [] ∧
    (serve cfg req script).panicked = true := by
  obtain ⟨_, _, s⟩ := serve_served cfg req script hadm
  obtain ⟨r1, _, r3⟩ := s.resp_of_panicked (decision_panics hp)
  rw [r1]; exact ⟨rfl, rfl, r3⟩

/-! ## non-vacuity -/

def exExpr : Expr := .and (.cmp .attempts .lt 4) (.or .isNetworkError (.cmp .responseCode .ge 503))
def exCfg : Cfg := { retry := some exExpr }
def exReq : Req := { method := "GET", url := "/", header := [], chunked := false, body := [] }
/-- attempts 1 and 2 fail with 502 / 503 and a body, attempt 3 writes "hi" without choosing a status -/
def exScript : Nat → Attempt
  | 1 => { status := some 502, respHdr := [("X-Try", "1")], writes := [[1, 1, 1]] }
  | 2 => { status := some 503, respHdr := [("X-Try", "2")], writes := [[2, 2]] }
  | _ => { respHdr := [("X-Try", "3")], writes := [[104], [], [105]] }

example : ¬ requestOver exCfg exReq := by decide +kernel
example : (serve exCfg exReq exScript).invocations = 3 := by decide +kernel
example : ¬ panics (exScript 3) ∧ ¬ hijackEff exCfg (exScript 3) ∧ ¬ overLimit exCfg (exScript 3) ∧ bodyAllowed exReq.method (exScript 3) := by decide +kernel
example : (serve exCfg exReq exScript).resp.status = some 200 ∧ (serve exCfg exReq exScript).resp.body = [104, 105] ∧
    (serve exCfg exReq exScript).resp.sentHeader = [("X-Try", ["3"])] := by decide +kernel
example : retryCond exCfg exReq exScript 1 := by
  refine ⟨by decide +kernel, by decide +kernel, by decide +kernel, by decide +kernel, exExpr, rfl, ?_⟩
  exact (C07_eval_standard _ _).mp (by decide +kernel)
/-- eleven invocations are reached: `Attempts() >= 0` is always true -/
example : (serve { retry := some (.cmp .attempts .ge 0) } exReq (fun _ => {})).invocations = 11 := by decide +kernel
/-- empty final body, no `Content-Length: 0` -/
example : (serve {} exReq (fun _ => { status := some 201 })).resp.status = some 201 ∧
    (serve {} exReq (fun _ => { status := some 201 })).resp.body = [] := by decide +kernel

/-- a dropped-body kind: `Grpc-Status: 2` with a written body -/
example : (serve {} exReq (fun _ => { respHdr := [("Grpc-Status", "2")], writes := [[1, 2]] })).resp.body = [] ∧
    ¬ bodyAllowed "GET" { respHdr := [("Grpc-Status", "2")], writes := [[1, 2]] } := by decide +kernel
/-- a late `WriteHeader` replaces the captured status; a late header is delivered -/
example : (serve {} exReq (fun _ => { writes := [[1]], lateStatus := some 500, lateHdr := [("X-Late", "1")] })).resp.status = some 500 ∧
    (serve {} exReq (fun _ => { writes := [[1]], lateStatus := some 500, lateHdr := [("X-Late", "1")] })).resp.sentHeader = [("X-Late", ["1"])] := by
  decide +kernel
/-- a panic after a discarded attempt: nothing written -/
example : (serve { retry := some (.cmp .attempts .lt 2) } exReq (fun k => if k = 1 then Attempt.mk none [] none [] (some 502) [[1]] [] none false false false
    else Attempt.mk none [] none [] none [[2]] [] none false false true)).resp.status = none := by decide +kernel

end C07
