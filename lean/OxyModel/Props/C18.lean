import OxyModel.Proofs.CBreaker.Machine
import OxyModel.Proofs.CBreaker.Eval
import OxyModel.Proofs.CBreaker.Window
import OxyModel.Proofs.Hist.Quantile
import OxyModel.Proofs.Hist.Rolling
import OxyModel.Proofs.Hist.Ops
import OxyModel.Proofs.Hist.Composite

/-!
# C18 — the breaker trips exactly when its condition holds; side effects fire once

Two parts: the breaker over an oracle for the latency quantiles (this head), then, from "The latency histogram
inside the model" on, the histogram that computes them and its composition with the breaker.

Property theorems only (helpers: `OxyModel/Proofs/CBreaker/{Machine,Metrics,Eval,Window}.lean`).  Models:
`OxyModel/Model/CBExpr.lean` (`CBExpr.eval` = the combinators of `predicates.go`),
`OxyModel/Model/CBreaker.lean` (`CB.record` = `metrics.Record`, `CB.checkAndSet` = `checkAndSet` — two steps,
other requests may act in between; `CB.complete` = the two back to back, `CB.Metrics` = `RTMetrics`
over the rolling counters of `Model/Counter.lean`).

`Denote env e` is the independently written reading of an expression: comparisons of rational numbers
(`ℚ`) / integers with `= ≠ < ≤ > ≥`, `∧`, `∨`.  `envOf (reader now orc) m` are the values the three
metric functions report on metrics `m` at instant `now`; `C18_env_values` spells them out.
-/
namespace C18
open CB CBExpr

/-- **what the metric functions denote**: the network-error ratio is `netErrors / total` of the window
    counts (0 when nothing is counted), the response-code ratio is the quotient of the summed window counts
    of the two code ranges (0 when the divisor is 0), the latency quantile is the oracle value -/
theorem C18_env_values (now : Nat) (orc : Oracle) (m : Metrics) :
    (envOf (reader now orc) m).ner =
      (if (RCnt.count ccfg m.total now).2 = 0 then 0
       else ((RCnt.count ccfg m.netErrors now).2 : ℚ) / ((RCnt.count ccfg m.total now).2 : ℚ)) ∧
    (∀ a0 a1 b0 b1, (envOf (reader now orc) m).rcr a0 a1 b0 b1 =
      (if codeSum now b0 b1 m.codes = 0 then 0
       else (codeSum now a0 a1 m.codes : ℚ) / (codeSum now b0 b1 m.codes : ℚ))) ∧
    (∀ q, (envOf (reader now orc) m).lat q = (orc.get q : ℤ)) := by
  refine ⟨?_, ?_, fun q => rfl⟩
  · show (Metrics.ner now m).2.toQ = _
    rw [ner_val]
    split
    · exact Val.toQ_zero
    · rfl
  · intro a0 a1 b0 b1
    show (Metrics.rcr now a0 a1 b0 b1 m).2.toQ = _
    rw [rcr_val, ite_not]
    split
    · exact Val.toQ_zero
    · rfl

/-- the responses `(time, code)` the condition is evaluated over when a response with status `code`
    completes at `now` after the trace `es` on a fresh breaker: this one and those recorded since the last
    trip (`recsAfter` restarts from `[]` at every completion that tripped) -/
def recorded (c : Cfg) (es : List Ev) (now code : Nat) : List (Nat × Nat) :=
  (now, code) :: recsAfter c Brk.init [] es

/-- any status code -/
def anyCode : Nat → Bool := fun _ => true
/-- `code < hi && code >= lo`, the range test of `ResponseCodeRatio` -/
def inRange (lo hi : Nat) : Nat → Bool := fun k => decide (k < hi ∧ k ≥ lo)

private theorem env_of_minv {m : Metrics} {T now : Nat} {recs : List (Nat × Nat)} (h : MInv m T recs)
    (hT : T ≤ now) (hnow : tmin ≤ now) (orc : Oracle) :
    (envOf (reader now orc) m).ner =
      (if winCount now recs anyCode = 0 then 0
       else (winCount now recs isNE : ℚ) / (winCount now recs anyCode : ℚ)) ∧
    ∀ a0 a1 b0 b1,
      (envOf (reader now orc) m).rcr a0 a1 b0 b1 =
        (if winCount now recs (inRange b0 b1) = 0 then 0
         else (winCount now recs (inRange a0 a1) : ℚ) / (winCount now recs (inRange b0 b1) : ℚ)) := by
  obtain ⟨v1, v2, _⟩ := C18_env_values now orc m
  refine ⟨?_, fun a0 a1 b0 b1 => ?_⟩
  · rw [v1, h.total.read hT hnow, h.ne.read hT hnow]
    rfl
  · rw [v2, minv_codeSum h hT hnow, minv_codeSum h hT hnow]
    rfl

/-- **the metrics are the current window since the last trip** (composition with the C17 counter
    invariant): after *every* trace — arrivals, records and checks of overlapping requests in any
    interleaving, `recsAfter` collecting every `record` and restarting from `[]` at every check that
    tripped — with non-decreasing time stamps, the values a check at `now` evaluates the condition on are
    quotients of plain counts over **everything recorded so far since the last trip** whose one-second
    slot is among the last ten (`winCount now recs P` = number of `r ∈ recs` with `P r.code` and
    `⌊now/1s⌋ < ⌊r.time/1s⌋ + 10`): network errors (502/504) over all responses; responses in `[a0,a1)`
    over responses in `[b0,b1)`; `0` when the divisor counts nothing.
    (`tmin` = 1970-01-01 + 10 s: earlier clock readings have no bucket.) -/
theorem C18_window (c : Cfg) (es : List Ev) (now : Nat) (orc : Oracle)
    (hsorted : (es.map Ev.time ++ [now]).Pairwise (· ≤ ·))
    (hmin : ∀ e ∈ es, tmin ≤ e.time) (hnow : tmin ≤ now) :
    (envOf (reader now orc) (run c Brk.init es).1.met).ner =
      (if winCount now (recsAfter c Brk.init [] es) anyCode = 0 then 0
       else (winCount now (recsAfter c Brk.init [] es) isNE : ℚ) / (winCount now (recsAfter c Brk.init [] es) anyCode : ℚ)) ∧
    ∀ a0 a1 b0 b1,
      (envOf (reader now orc) (run c Brk.init es).1.met).rcr a0 a1 b0 b1 =
        (if winCount now (recsAfter c Brk.init [] es) (inRange b0 b1) = 0 then 0
         else (winCount now (recsAfter c Brk.init [] es) (inRange a0 a1) : ℚ) /
              (winCount now (recsAfter c Brk.init [] es) (inRange b0 b1) : ℚ)) :=
  env_of_minv (minv_after c es now hsorted hmin) (Nat.le_refl _) hnow orc

/-- the same for a completion whose `record` and `check` run back to back (`complete`): after *every* trace with non-decreasing time stamps, the values the condition is evaluated
    on at a completion are quotients of plain counts over the responses recorded since the last trip whose
    one-second slot is among the last ten (`winCount now recs P` = number of `r ∈ recs` with `P r.code`
    and `⌊now/1s⌋ < ⌊r.time/1s⌋ + 10`): network errors (502/504) over all responses; responses in
    `[a0,a1)` over responses in `[b0,b1)`; `0` when the divisor counts nothing.
    (`tmin` = 1970-01-01 + 10 s: earlier clock readings have no bucket.) -/
theorem C18_window_fused (c : Cfg) (es : List Ev) (now code : Nat) (orc : Oracle)
    (hsorted : (es.map Ev.time ++ [now]).Pairwise (· ≤ ·))
    (hmin : ∀ e ∈ es, tmin ≤ e.time) (hnow : tmin ≤ now) :
    (envOf (reader now orc) ((run c Brk.init es).1.met.record now code)).ner =
      (if winCount now (recorded c es now code) anyCode = 0 then 0
       else (winCount now (recorded c es now code) isNE : ℚ) / (winCount now (recorded c es now code) anyCode : ℚ)) ∧
    ∀ a0 a1 b0 b1,
      (envOf (reader now orc) ((run c Brk.init es).1.met.record now code)).rcr a0 a1 b0 b1 =
        (if winCount now (recorded c es now code) (inRange b0 b1) = 0 then 0
         else (winCount now (recorded c es now code) (inRange a0 a1) : ℚ) /
              (winCount now (recorded c es now code) (inRange b0 b1) : ℚ)) :=
  env_of_minv (minv_record (minv_after c es now hsorted hmin) (Nat.le_refl _) hnow code) (Nat.le_refl _) hnow orc

/-- **the evaluator is the standard reading**: for every well-typed condition `e` (every nesting of
    `&&`/`||`, all six comparisons, the three functions), on every metrics state, at every instant, the
    Go-style evaluation (short-circuiting combinators, `le = lt || eq`, `neq = !eq`, a fresh read of the
    mutable counters at every mapper call, integer cross-multiplication) is true exactly when `e` holds
    under ordinary comparison and Boolean semantics over the metric values -/
theorem C18_eval_standard (now : Nat) (orc : Oracle) (m : Metrics) (e : Expr) (hwt : e.wellTyped = true) :
    (eval (reader now orc) e m).2 = true ↔ Denote (envOf (reader now orc) m) e :=
  eval_denote (reader_stable now orc) (reader_wellFormed now orc) m e m hwt (ReportsLike.refl _ _)

/-- the same for any metrics source whose reads are repeatable and well-formed (the general lemma) -/
theorem C18_eval_standard_general {σ : Type} (rd : Reader σ) (hst : Stable rd) (hwf : WellFormed rd)
    (s : σ) (e : Expr) (hwt : e.wellTyped = true) :
    (eval rd e s).2 = true ↔ Denote (envOf rd s) e :=
  eval_denote hst hwf s e s hwt (ReportsLike.refl _ _)

/-- **trips iff**: a check at `now` (the `checkAndSet` of a completing request, at whatever point of the
    interleaving) trips the breaker iff an evaluation is due (`now > lastCheck`: the first check after the
    check period), the breaker is not already tripped, and the condition is true — in its standard reading
    — on the metrics as they are, i.e. (by `C18_window`) on everything recorded so far since the last trip
    and inside the window.  The state is `tripped` afterwards iff it was before or the breaker tripped now;
    an evaluation (whatever its outcome, also while tripped) schedules the next one `checkPeriod` later, and
    a check that is not due changes nothing. -/
theorem C18_trips_iff (c : Cfg) (b : Brk) (now : Nat) (orc : Oracle) (hwt : c.cond.wellTyped = true) :
    ((checkAndSet c b now orc).2 = true ↔
      (now > b.lastCheck ∧ b.state ≠ .tripped ∧ Denote (envOf (reader now orc) b.met) c.cond)) ∧
    ((checkAndSet c b now orc).1.state = .tripped ↔
      (b.state = .tripped ∨ (checkAndSet c b now orc).2 = true)) ∧
    ((checkAndSet c b now orc).2 = true → (checkAndSet c b now orc).1.until_ = now + c.fallbackDur) ∧
    (now > b.lastCheck → (checkAndSet c b now orc).1.lastCheck = now + c.checkPeriod) ∧
    (¬ now > b.lastCheck → checkAndSet c b now orc = (b, false)) := by
  refine ⟨check_trips_iff c b now orc hwt, ?_, ?_, (check_lastCheck c b now orc).1, (check_lastCheck c b now orc).2⟩
  · cases hf : (checkAndSet c b now orc).2 with
    | true => simp [(check_trip c b now orc hf).state]
    | false => rw [(check_false c b now orc hf).state]; simp
  · intro hf; exact (check_trip c b now orc hf).until_

/-- the same for `record` and `check` run back to back: a completed response at `now` with status `code` trips the breaker iff an evaluation is
    due (`now > lastCheck`: the first completion after the check period), the breaker is not already
    tripped, and the condition is true — in its standard reading — on the metrics that hold this response.
    The state is `tripped` afterwards iff it was before or the breaker tripped now; an evaluation
    (whatever its outcome, also while tripped) schedules the next one `checkPeriod` later, and a completion
    that is not due changes nothing but the recorded metrics. -/
theorem C18_trips_iff_fused (c : Cfg) (b : Brk) (now code : Nat) (orc : Oracle) (hwt : c.cond.wellTyped = true) :
    ((complete c b now code orc).2 = true ↔
      (now > b.lastCheck ∧ b.state ≠ .tripped ∧
        Denote (envOf (reader now orc) (b.met.record now code)) c.cond)) ∧
    ((complete c b now code orc).1.state = .tripped ↔
      (b.state = .tripped ∨ (complete c b now code orc).2 = true)) ∧
    ((complete c b now code orc).2 = true → (complete c b now code orc).1.until_ = now + c.fallbackDur) ∧
    (now > b.lastCheck → (complete c b now code orc).1.lastCheck = now + c.checkPeriod) ∧
    (¬ now > b.lastCheck → complete c b now code orc = ({ b with met := b.met.record now code }, false)) := by
  -- `complete` is `checkAndSet` on the breaker holding the recorded response
  exact C18_trips_iff c { b with met := b.met.record now code } now orc hwt

/-- **tripping clears the metrics**: right after any event that trips the breaker (a `check`, alone or
    fused with its `record`) the metrics are reset, so that at every later instant, until new responses are
    recorded, the network-error ratio and every response-code ratio read 0 — failures recorded before the
    trip cannot trip the breaker again.  (Ratio functions only: the latency histogram is not modelled;
    that `LatencyAtQuantileMS` forgets the latencies recorded before the trip is checked by the monitor's
    independent bound on the oracle value, not proved here.) -/
theorem C18_trip_clears_metrics (c : Cfg) (b : Brk) (e : Ev) (h : (step c b e).2 = .done true) :
    (step c b e).1.met.codes = [] ∧
    ∀ now' orc', (envOf (reader now' orc') (step c b e).1.met).ner = 0 ∧
      ∀ a0 a1 b0 b1, (envOf (reader now' orc') (step c b e).1.met).rcr a0 a1 b0 b1 = 0 := by
  obtain ⟨m', hm⟩ := (step_done_true c b e h).reset
  rw [hm]
  refine ⟨rfl, fun now' orc' => ⟨?_, fun a0 a1 b0 b1 => ?_⟩⟩
  · show (Metrics.ner now' m'.reset).2.toQ = 0
    rw [ner_reset]; exact Val.toQ_zero
  · show (Metrics.rcr now' a0 a1 b0 b1 m'.reset).2.toQ = 0
    rw [rcr_reset]; exact Val.toQ_zero

/-- **effects once per transition**: over any trace (any number of trip/recover cycles, overlapping
    requests interleaved at the granularity of arrive / record / check) from any breaker, the on-tripped
    side effect has been launched once per entry into `tripped` and the on-standby effect once per entry
    into `standby`; entries into `tripped` are exactly the
    completions that tripped.  The model counts *launches* of `SideEffect.Exec`: what `Exec` returns (an
    effect may act and then report an error, which the code only logs) does not enter the model, so the
    count is one per transition whatever the outcome; the correspondence check runs succeeding and failing
    effects against these counters. -/
theorem C18_effects_once (c : Cfg) (b : Brk) (es : List Ev) :
    (run c b es).1.tripped = b.tripped + entries .tripped (b.state :: (states c b es).map (·.state)) ∧
    (run c b es).1.standbys = b.standbys + entries .standby (b.state :: (states c b es).map (·.state)) ∧
    (run c b es).1.tripped = b.tripped + (run c b es).2.count (.done true) :=
  ⟨(effects_count c es b).1, (effects_count c es b).2, tripped_count c es b⟩

/-! ### non-vacuity: two full cycles, a compound condition with a tie -/
def T0 : Nat := RCnt.baseSinceZeroNs
/-- `NetworkErrorRatio() >= 0.5 && (ResponseCodeRatio(500, 600, 0, 600) > 0.3 || LatencyAtQuantileMS(50.0) > 100)` -/
def exCond : Expr :=
  .and (.cmp .ge .ner (.float 5 10))
    (.or (.cmp .gt (.rcr (.int 500) (.int 600) (.int 0) (.int 600)) (.float 3 10))
         (.cmp .gt (.lat (.float 500 10)) (.int 100)))
def exCfg : Cfg := ⟨1000, 1000, 100, exCond⟩
def exTrace : List Ev :=
  [.arrive T0, .arrive T0,
   .complete (T0 + 1) 200 [(.float 500 10, 0)],            -- evaluated: 0/1 ≥ 0.5 false
   .complete (T0 + 50) 502 [(.float 500 10, 0)],           -- not due (check period)
   .arrive (T0 + 200), .complete (T0 + 200) 504 [(.float 500 10, 0)],   -- due: 2/3 ≥ 0.5, 2/3 > 0.3: trips
   .arrive (T0 + 1200), .arrive (T0 + 2201),               -- recovery starts; after it: standby
   .complete (T0 + 2300) 502 [(.float 500 10, 0)],          -- due: 1/1 ≥ 0.5 (the metrics were cleared): trips again
   .arrive (T0 + 3300), .arrive (T0 + 4301)]

example : exCond.wellTyped = true := by decide +kernel
example : tmin ≤ T0 := by decide +kernel
example : (run exCfg Brk.init exTrace).2 =
    [.pass, .pass, .done false, .done false, .pass, .done true, .fallback, .pass, .done true, .fallback, .pass] := by
  decide +kernel
example : (run exCfg Brk.init exTrace).1.tripped = 2 ∧ (run exCfg Brk.init exTrace).1.standbys = 2 := by decide +kernel
/-- the window over the example trace at its second trip: only the 502 recorded after the first trip counts -/
example : recorded exCfg (exTrace.take 8) (T0 + 2300) 502 = [(T0 + 2300, 502)] := by decide +kernel
example : winCount (T0 + 200) (recorded exCfg (exTrace.take 5) (T0 + 200) 504) isNE = 2 ∧
    winCount (T0 + 200) (recorded exCfg (exTrace.take 5) (T0 + 200) 504) anyCode = 3 := by decide +kernel

/-- the reviewer's schedule `record_A record_B check_B check_A` with `NetworkErrorRatio() >= 0.5`, A = 502,
    B = 200: the one evaluation sees both responses (1/2) and trips; the other check is not due -/
example : (run ⟨1000, 1000, 100, .cmp .ge .ner (.float 5 10)⟩ Brk.init
    [.arrive T0, .arrive T0, .record (T0 + 5) 502, .record (T0 + 5) 200, .check (T0 + 5) [], .check (T0 + 5) []]).2 =
    [.pass, .pass, .recorded, .recorded, .done true, .done false] := by decide +kernel
example : recsAfter ⟨1000, 1000, 100, .cmp .ge .ner (.float 5 10)⟩ Brk.init []
    [.arrive T0, .arrive T0, .record (T0 + 5) 502, .record (T0 + 5) 200] = [(T0 + 5, 200), (T0 + 5, 502)] := by decide +kernel

/-- an exact tie: one network error in two responses, `0.5 ≥ 0.5` holds, `0.5 > 0.5` does not -/
example : (eval (reader (T0 + 5) []) (.cmp .ge .ner (.float 5 10)) ((Metrics.init.record T0 200).record (T0 + 5) 502)).2 = true ∧
    (eval (reader (T0 + 5) []) (.cmp .gt .ner (.float 5 10)) ((Metrics.init.record T0 200).record (T0 + 5) 502)).2 = false := by
  decide +kernel


/-! ## The latency histogram inside the model

`Model/Hist.lean` follows `hdrhistogram-go v1.1.2` (`hdr.go`), `memmetrics/histogram.go` and `roundtrip.go` branch by
branch; `Model/CBreakerHist.lean` puts it next to the breaker (`CB.Brk × Hist.Rolling`).  Helper lemmas:
`Proofs/Hist/{Index,Counts,Quantile,Rolling,Ops,Composite}.lean`.  The one float step of the code,
`countAtPercentile := int64(q/100·float64(total) + 0.5)`, is **not** modelled: the theorems speak about an arbitrary
count `k` (`1 ≤ k ≤ total`) or about its exact rational reading `Hist.countAtQ`; that the float value equals the rational
one is assumed (the driver computes it in `Float`, and the correspondence run compares the resulting quantiles with the
implementation's on every completion). -/
section Histogram
open Hist

/-- **(a) what a histogram holds**: after any history of `RecordValue` / `Reset` on a new histogram, `counts` has its
    `countsLen = 3328` entries, `counts[i]` is the number of values recorded since the last reset that `countsIndexFor`
    sends to `i`, `totalCount` is the number of those in range — which are exactly the values below 2^32 (µs: about 71.6
    min; larger ones are silently dropped) — and merging two such histograms adds the counts position by position and the
    totals. -/
theorem C18_hist_counts (ops : List HOp) :
    (runOps ops).counts.size = countsLen ∧
    (∀ i, i < countsLen → (runOps ops).counts.getD i 0 = (sinceOps ops).countP (fun v => countsIndexFor v = i)) ∧
    (runOps ops).total = (sinceOps ops).countP (fun v => countsIndexFor v < countsLen) ∧
    (∀ v, countsIndexFor v < countsLen ↔ v < 2 ^ 32) ∧
    ∀ ops2 : List HOp,
      (∀ i, ((runOps ops).merge (runOps ops2)).counts.getD i 0 = (runOps ops).counts.getD i 0 + (runOps ops2).counts.getD i 0) ∧
      ((runOps ops).merge (runOps ops2)).total = (runOps ops).total + (runOps ops2).total := by
  have hr := rep_runOps ops
  refine ⟨hr.size, fun i hi => ?_, ?_, inRange_iff, fun ops2 => ?_⟩
  · rw [hr.count i, countP_held_index ops i hi]
  · rw [hr.total, length_held]
  · have a := adds_merge hr (rep_runOps ops2)
    exact ⟨a.count, a.total⟩

/-- non-vacuity: five records (one of 2^32 µs: dropped), a reset in between -/
def exOps : List HOp := [.record 7, .reset, .record 1000000, .record 300, .record 4294967296, .record 1003000, .record 5000000]
example : sinceOps exOps = [5000000, 1003000, 4294967296, 300, 1000000] := by decide +kernel
private theorem held_exOps : held exOps = [5000000, 1003000, 300, 1000000] := by decide +kernel
example : held exOps = [5000000, 1003000, 300, 1000000] := held_exOps
private theorem exOps_total : (runOps exOps).total = 4 := by rw [(C18_hist_counts exOps).2.2.1]; decide +kernel
example : (runOps exOps).total = 4 ∧ (runOps exOps).counts.getD 1780 0 = 2 ∧ (runOps exOps).counts.getD 278 0 = 1 := by
  obtain ⟨_, h2, _⟩ := C18_hist_counts exOps
  refine ⟨exOps_total, ?_, ?_⟩
  · rw [h2 1780 (by decide)]; decide +kernel
  · rw [h2 278 (by decide)]; decide +kernel
example : ((runOps exOps).merge (runOps [.record 300])).counts.getD 278 0 = 2 := by
  rw [((C18_hist_counts exOps).2.2.2.2 [.record 300]).1 278, (C18_hist_counts exOps).2.1 278 (by decide),
    (C18_hist_counts [.record 300]).2.1 278 (by decide)]
  decide +kernel

/-- **(b) equivalence classes**: for all values `u`, `v` (in particular below 2^32): `lowestEquivalentValue(v) ≤ v ≤
    highestEquivalentValue(v)`; `countsIndexFor` is monotone; two values are counted at the same position iff they have
    the same lowest equivalent value; a class is `highestEq - lowestEq + 1 = 2^bucketIdx(v)` wide, with
    `(highestEq v - lowestEq v)·128 ≤ v < (highestEq v - lowestEq v + 1)·256` — the quantile the histogram reports is less
    than `v/128` (0.79 %) away from a recorded value; below 256 µs the histogram is exact. -/
theorem C18_hist_class (u v : Nat) :
    (lowestEq v ≤ v ∧ v ≤ highestEq v) ∧
    (u ≤ v → countsIndexFor u ≤ countsIndexFor v) ∧
    (countsIndexFor u = countsIndexFor v ↔ lowestEq u = lowestEq v) ∧
    (highestEq v - lowestEq v + 1 = 2 ^ bucketIdx v ∧
      (highestEq v - lowestEq v) * 128 ≤ v ∧ v < (highestEq v - lowestEq v + 1) * 256) ∧
    (v < 256 → lowestEq v = v ∧ highestEq v = v) := by
  refine ⟨⟨lowestEq_le v, le_highestEq v⟩, countsIndexFor_mono, countsIndexFor_eq_iff u v, class_width v, fun h => ⟨?_, ?_⟩⟩
  · rw [lowestEq_eq, bucketIdx_small h, Nat.pow_zero, Nat.div_one, Nat.mul_one]
  · rw [highestEq_eq, bucketIdx_small h, Nat.pow_zero, Nat.div_one, Nat.mul_one, Nat.add_sub_cancel]

/-- non-vacuity: one second (10^6 µs) lies in the class `[999424, 1003519]` (bucket 12, 4096 µs wide), counted at position 1780 -/
example : lowestEq 1000000 = 999424 ∧ highestEq 1000000 = 1003519 ∧ countsIndexFor 1000000 = 1780 ∧ bucketIdx 1000000 = 12 := by
  decide +kernel
example : countsIndexFor 1003519 = countsIndexFor 999424 ∧ countsIndexFor 1003520 = 1781 ∧ countsIndexFor 999423 = 1779 := by
  decide +kernel
example : countsIndexFor 4294967295 = 3327 ∧ countsIndexFor 4294967296 = 3328 ∧ highestEq 4294967295 = 4294967295 := by
  decide +kernel

/-- **(c) rank**: after any history of one histogram, for a count `1 ≤ k ≤ totalCount` the value
    `r = highestEquivalentValue(getValueFromIdxUpToCount(k))` — what `ValueAtPercentile` returns for a non-zero
    percentile whose `countAtPercentile` is `k` — is the highest value equivalent to some held value; at least `k`
    held values are `≤ r`; fewer than `k` held values lie below `lowestEquivalentValue(r)`: `r` is the class of the
    `k`-th smallest held value.  For `k = 0` (an empty histogram, the percentile 0, or `q/100·total < 1/2`) the
    result is 0 whatever has been recorded. -/
theorem C18_quantile_rank (ops : List HOp) :
    (∀ k, 1 ≤ k → k ≤ (runOps ops).total →
      (∃ v ∈ held ops, (runOps ops).valueAtCount k false = highestEq v) ∧
      k ≤ (held ops).countP (fun v => decide (v ≤ (runOps ops).valueAtCount k false)) ∧
      (held ops).countP (fun v => decide (v < lowestEq ((runOps ops).valueAtCount k false))) < k) ∧
    (∀ z, (runOps ops).valueAtCount 0 z = 0) :=
  ⟨fun _ h1 h2 => valueAtCount_rank (rep_runOps ops) h1 h2, valueAtCount_zero _⟩

/-- the exact-rational count of the float step stays inside the histogram: `countAtQ ≤ totalCount` for every percentile
    (the code clamps it to 100), it is 0 for the percentile 0 and `totalCount` from 100 on -/
theorem C18_quantile_count (num den total : Nat) (hd : 0 < den) :
    countAtQ num den total ≤ total ∧ countAtQ 0 den total = 0 ∧ (100 * den ≤ num → countAtQ num den total = total) :=
  ⟨countAtQ_le num den total hd, countAtQ_zero den total hd, countAtQ_full num den total hd⟩

/-- non-vacuity: the median count of four held values is 2, and the second smallest of `held exOps` is one second -/
example : countAtQ 500 10 4 = 2 ∧ countAtQ 999 10 4 = 4 ∧ countAtQ 10 10 4 = 0 ∧ countAtQ 2500 10 4 = 4 := by decide +kernel
example : ∃ v ∈ held exOps, (runOps exOps).valueAtCount 2 false = highestEq v :=
  ((C18_quantile_rank exOps).1 2 (by decide) (by rw [exOps_total]; decide)).1

/-- … and the three clauses pin the value down: the count 2 over `held exOps = [5000000, 1003000, 300, 1000000]` gives the
    class of one second, `highestEq 1000000 = 1003519` -/
example : (runOps exOps).valueAtCount 2 false = 1003519 := by
  obtain ⟨⟨v, hv, e⟩, a2, a3⟩ := (C18_quantile_rank exOps).1 2 (by decide) (by rw [exOps_total]; decide)
  rw [e] at a2 a3 ⊢
  rw [held_exOps] at hv a2 a3
  simp only [List.mem_cons, List.not_mem_nil, or_false] at hv
  rcases hv with rfl | rfl | rfl | rfl
  · exact absurd a3 (by decide +kernel)
  · decide +kernel
  · exact absurd a2 (by decide +kernel)
  · decide +kernel

/-- the same on what `LatencyAtQuantileMS` reads — the merge of the rolling histogram after any history of
    `recordLatency` / `reset`: with `win` the microsecond values (below 2^32) of the latencies the ghost slots hold
    (`C18_rolling_window`), `1 ≤ k ≤ totalCount`: the value is the class of the `k`-th smallest of `win`; and the
    predicate's result is that value in whole milliseconds -/
theorem C18_quantile_rank_rolling (es : List REv) :
    (∀ k, 1 ≤ k → k ≤ (runR es).merged.total →
      (∃ v ∈ vals (runG es).slots.flatten, (runR es).merged.valueAtCount k false = highestEq v) ∧
      k ≤ (vals (runG es).slots.flatten).countP (fun v => decide (v ≤ (runR es).merged.valueAtCount k false)) ∧
      (vals (runG es).slots.flatten).countP (fun v => decide (v < lowestEq ((runR es).merged.valueAtCount k false))) < k) ∧
    (∀ kf num den, latencyAtQuantileMS kf (runR es) num den =
      (runR es).merged.valueAtCount (kf num den (runR es).merged.total) (decide (num = 0)) / 1000) := by
  have merged : Rep (runR es).merged (vals (runG es).slots.flatten) := rep_merged (sim_run es)
  -- `v · 1µs / 1ms` is `v * 1000 / (1000 * 1000)`
  have ms : ∀ v : Nat, v * 1000 / 1000000 = v / 1000 := fun v => Nat.mul_div_mul_right v 1000 (by decide)
  exact ⟨fun _ => valueAtCount_rank merged, fun _ _ _ => ms _⟩

/-- **(d) the rolling window**: after any history of `recordLatency` / `reset` (any clock readings), with
    `runG es` the explicit per-bucket lists (`Hist.stepG`: a record at `now` first rotates iff `now - lastRoll ≥ 10 s` —
    once, however long the gap — emptying the next of the six slots and evicting its pairs, then puts `(now, latency)`
    into the current slot; a reset empties all six):
    every sub-histogram holds exactly the microsecond values of its slot; the merged histogram
    holds exactly those of all six slots; and the pairs recorded since the last reset are (as multisets) the pairs in
    the slots plus the pairs evicted by rotations.  So `Merged()` contains exactly the latencies recorded since the
    last reset whose bucket has not been re-used by a later rotation. -/
theorem C18_rolling_window (es : List REv) :
    (runR es).idx = (runG es).idx ∧ (runR es).lastRoll = (runG es).lastRoll ∧
    (runR es).buckets.length = 6 ∧ (runG es).slots.length = 6 ∧
    (∀ j, j < 6 → ∀ i, ((runR es).buckets.getD j H.new).counts.getD i 0 =
        (vals ((runG es).slots.getD j [])).countP (fun v => countsIndexFor v = i)) ∧
    (∀ i, (runR es).merged.counts.getD i 0 = (vals (runG es).slots.flatten).countP (fun v => countsIndexFor v = i)) ∧
    (runR es).merged.total = (vals (runG es).slots.flatten).length ∧
    (sinceReset es).Perm ((runG es).slots.flatten ++ (runG es).dropped) := by
  have hs := sim_run es
  have hm := rep_merged hs
  exact ⟨hs.idx, hs.lastRoll, hs.buckets, hs.slots, fun j _ => (hs.rep j).count, hm.count, hm.total, partition_run es⟩

/-- **how recent is surely inside**: if no clock reading of the history exceeds `now`, every pair `(t, d)` recorded since
    the last reset with `now ≤ t + 50 s` (five periods) is still in a slot, with its full multiplicity: the merged
    histogram counts it.  An evicted pair satisfies `t + 50 s < lastRoll ≤ now`. -/
theorem C18_rolling_recent (es : List REv) (now : Nat) (hnow : ∀ e ∈ es, e.time ≤ now)
    (x : Nat × Nat) (hx : x ∈ sinceReset es) (hrecent : now ≤ x.1 + 5 * histPeriod) :
    x ∈ (runG es).slots.flatten ∧ (sinceReset es).count x = (runG es).slots.flatten.count x ∧
    ∀ y ∈ (runG es).dropped, y.1 + 5 * histPeriod < now := by
  have hd := dropped_old es now hnow
  have hnd : x ∉ (runG es).dropped := fun c => Nat.not_le.2 (hd x c) hrecent
  have hp := partition_run es
  have hc := hp.count_eq x
  rw [List.count_append, List.count_eq_zero_of_not_mem hnd] at hc
  exact ⟨(List.mem_append.mp (hp.mem_iff.1 hx)).resolve_right hnd, hc, hd⟩

/-- the natural-sounding bound "whatever was recorded in the last 60 s (6 buckets × 10 s) is inside" is **false**, and
    the 50 s of `C18_rolling_recent` cannot be improved by a nanosecond: a latency recorded 1 ns before the second
    bucket's period ends is evicted by the record 50 s + 1 ns later (times in ns since the zero time; the first record of a
    fresh histogram always rotates, `lastRoll` being the zero time) -/
def exEvict : List REv :=
  [.record 100000000000 1000000,            -- t = 100 s: rotates into slot 1
   .record 109999999999 2000000,            -- 1 ns before the period ends: same slot
   .record 110000000000 3000000, .record 120000000000 3000000, .record 130000000000 3000000,
   .record 140000000000 3000000, .record 150000000000 3000000,   -- five rotations: slots 2, 3, 4, 5, 0
   .record 160000000000 3000000]            -- the sixth: slot 1 again, its two pairs are evicted

theorem C18_rolling_window_60s_counterexample :
    (∀ e ∈ exEvict, e.time ≤ 160000000000) ∧
    (109999999999, 2000000) ∈ sinceReset exEvict ∧
    160000000000 = 109999999999 + 5 * histPeriod + 1 ∧
    (109999999999, 2000000) ∉ (runG exEvict).slots.flatten ∧
    (runG exEvict).dropped = [(109999999999, 2000000), (100000000000, 1000000)] := by
  decide +kernel

/-- … and the merged histogram of the model indeed holds six of the eight latencies there -/
example : (runR exEvict).merged.total = 6 := by
  rw [(C18_rolling_window exEvict).2.2.2.2.2.2.1]; decide +kernel

/-- in the other direction nothing bounds the age of what `Merged()` contains: rotation happens only when something is
    recorded, once per record — after an idle hour the hour-old latency is still counted (and needs five more records at
    least 10 s apart to leave) -/
example : (runG [.record 100000000000 900000000, .record 3700000000000 1000000]).slots.flatten =
    [(100000000000, 900000000), (3700000000000, 1000000)] ∧
    (runG [.record 100000000000 900000000, .record 3700000000000 1000000]).dropped = [] := by decide +kernel
example : (runR [.record 100000000000 900000000, .record 3700000000000 1000000]).merged.total = 2 := by
  rw [(C18_rolling_window _).2.2.2.2.2.2.1]; decide +kernel

/-- non-vacuity of `C18_rolling_recent`: the last six records of `exEvict` are within 50 s of its end -/
example : (110000000000, 3000000) ∈ (runG exEvict).slots.flatten :=
  (C18_rolling_recent exEvict 160000000000 (by decide +kernel) (110000000000, 3000000) (by decide +kernel) (by decide +kernel)).1

/-- a reset in between: only what was recorded afterwards counts -/
example : sinceReset [.record 100000000000 5000000, .reset 101000000000, .record 102000000000 7000000] = [(102000000000, 7000000)] ∧
    (runG [.record 100000000000 5000000, .reset 101000000000, .record 102000000000 7000000]).slots =
      [[(102000000000, 7000000)], [], [], [], [], []] := by decide +kernel

end Histogram

/-- **(e) the composite refines the oracle model**: a completion on the breaker-with-histogram is `CB.complete` on the
    breaker with the oracle computed from the model histogram (after this latency was recorded), the histogram being reset
    (at the instant of the check) exactly when the completion tripped; and over every trace — arrivals, records, checks,
    completions in any interleaving — the breaker component and the observations of the composite are those of the oracle
    model `CB.run` on the trace with the oracles filled in (`CBH.toTrace`), at the same instants.  Hence every theorem of
    C05 / C12 / C18 about `CB.run`, `CB.step`, `CB.complete`, `CB.checkAndSet` applies to the composite. -/
theorem C18_latency_oracle_refines (kf : CBH.KF) (c : Cfg) (s : Brk × Hist.Rolling) :
    (∀ now code lat,
      (CBH.completeH kf c s now code lat).1.1 = (complete c s.1 now code (CBH.oracleOf kf c (s.2.recordLatency now lat))).1 ∧
      (CBH.completeH kf c s now code lat).2 = (complete c s.1 now code (CBH.oracleOf kf c (s.2.recordLatency now lat))).2 ∧
      (CBH.completeH kf c s now code lat).1.2 =
        (if (CBH.completeH kf c s now code lat).2 then (s.2.recordLatency now lat).reset now else s.2.recordLatency now lat)) ∧
    (∀ q, (CBH.oracleOf kf c s.2).get q = if q ∈ c.cond.quantiles then CBH.latOf kf s.2 q else 0) ∧
    (∀ es : List CBH.EvH,
      (CBH.runH kf c s es).1.1 = (run c s.1 (CBH.toTrace kf c s es)).1 ∧
      (CBH.runH kf c s es).2 = (run c s.1 (CBH.toTrace kf c s es)).2 ∧
      (CBH.toTrace kf c s es).length = es.length) := by
  refine ⟨fun now code lat => ⟨rfl, rfl, rfl⟩, fun q => ?_, fun es => ?_⟩
  · exact Oracle.get_map (CBH.latOf kf s.2) c.cond.quantiles q
  · obtain ⟨h1, h2⟩ := CBH.runH_brk kf c es s
    exact ⟨h1, h2, CBH.toTrace_length kf c es s⟩

/-- non-vacuity: `LatencyAtQuantileMS(50.0) > 100` with the exact-rational count; a completion with a latency of one
    second evaluates (first check) and trips; the histogram is reset at that instant -/
example : (CBH.completeH Hist.countAtQ ⟨1000, 1000, 100, .cmp .gt (.lat (.float 500 10)) (.int 100)⟩
    (Brk.init, Hist.Rolling.new) (T0 + 5) 200 1000000000).2 =
    (complete ⟨1000, 1000, 100, .cmp .gt (.lat (.float 500 10)) (.int 100)⟩ Brk.init (T0 + 5) 200
      (CBH.oracleOf Hist.countAtQ ⟨1000, 1000, 100, .cmp .gt (.lat (.float 500 10)) (.int 100)⟩
        (Hist.Rolling.new.recordLatency (T0 + 5) 1000000000))).2 :=
  ((C18_latency_oracle_refines _ _ _).1 _ _ _).2.1

end C18
