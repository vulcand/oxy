import OxyModel.Proofs.RR.Window
import OxyModel.Proofs.Pool.Find

/-!
# C01 — weighted round-robin selection is exactly proportional to the weights

Property theorems only (helper lemmas live in `OxyModel/Proofs/RR`).  The model is
`OxyModel/Model/RoundRobin.lean` (`RR.next` = `RoundRobin.nextServer`).
-/
namespace C01
open RR

/-- **C01 (window)**: for every weight vector with a positive weight, every offset `j` in the
    selection sequence and every server `i`: the `W` consecutive selections `j+1 … j+W` made from a
    freshly reset iterator choose server `i` exactly `w_i / g` times. -/
theorem C01_window (ws : List Nat) (h : ∃ w ∈ ws, 0 < w) (i j : Nat) :
    (run ws (W ws) (after ws j It.reset)).count (.sel i) = ws.getD i 0 / gcdW ws :=
  window_law ws h i j

/-- **C01 (never an error, never a zero-weight server)**: with at least one positive weight every
    call selects an existing server of positive weight — in particular the loop never runs out of
    fuel, so the model's fuel is not a restriction, and zero-weight servers are never chosen. -/
theorem C01_selects_positive (ws : List Nat) (h : ∃ w ∈ ws, 0 < w) (j k : Nat) :
    ∀ r ∈ run ws k (after ws j It.reset), ∃ i, r = .sel i ∧ i < ws.length ∧ 0 < ws.getD i 0 := by
  intro r hr
  obtain ⟨m, rfl⟩ := mem_run hr
  obtain ⟨i, s', e, hi⟩ := next_after_sel ws h (j + m)
  rw [← after_add, e]
  exact ⟨i, rfl, hi⟩

theorem C01_zero_never (ws : List Nat) (h : ∃ w ∈ ws, 0 < w) (i j k : Nat) (hi : ws.getD i 0 = 0) :
    Res.sel i ∉ run ws k (after ws j It.reset) := by
  intro hm
  obtain ⟨i', e, -, hp⟩ := C01_selects_positive ws h j k _ hm
  cases e
  exact Nat.ne_of_gt hp hi

/-- **C01 (share)**: in `k·W` consecutive selections server `i` is chosen exactly `k · w_i/g` times:
    its long-run share is `w_i / sum(w)`. -/
theorem C01_share (ws : List Nat) (h : ∃ w ∈ ws, 0 < w) (i j k : Nat) :
    (run ws (k * W ws) (after ws j It.reset)).count (.sel i) = k * (ws.getD i 0 / gcdW ws) := by
  induction k generalizing j with
  | zero => rw [Nat.zero_mul, Nat.zero_mul]; rfl
  | succ k ih =>
    rw [Nat.succ_mul, Nat.add_comm (k * W ws), run_add, List.count_append, C01_window ws h,
      ← after_add, Nat.add_comm j, ih, Nat.succ_mul, Nat.add_comm]

/-- an all-zero pool yields the error and leaves the iterator untouched -/
theorem C01_all_zero_error (ws : List Nat) (hne : ws ≠ []) (hz : ∀ w ∈ ws, w = 0) (s : It) :
    next ws s = (.errAllZero, s) := by
  have hmx : maxW ws = 0 := (List.mem_cons.mp (maxW_spec ws).1).elim id (hz _)
  rw [next, if_neg (mt List.length_eq_zero_iff.mp hne)]
  exact if_pos hmx

theorem C01_empty_error (s : It) : next [] s = (.errNoServers, s) := rfl

section history
variable {κ : Type} [DecidableEq κ]

/-- **C01 (every prior history)**: after any history of calls, a successful pool change leaves the
    iterator reset — a window never straddles two weight vectors, so `C01_window` applies to the
    selections that follow, whatever happened before. -/
theorem C01_change_resets (p : Pool κ) (k : κ) (w : Option Nat) :
    (p.upsert k w).it = It.reset ∧ ∀ p', p.remove k = some p' → p'.it = It.reset := by
  constructor
  · unfold Pool.upsert
    cases p.find k with
    | none => rfl
    | some i => cases w <;> rfl
  · intro p' hp
    unfold Pool.remove at hp
    split at hp
    · rw [← Option.some.inj hp]
    · cases hp

/-- the window law for the selections that follow any history ending in an `upsert` -/
theorem C01_after_any_history (hist : List (Pool.Op κ)) (k : κ) (w : Option Nat) (i j : Nat)
    (h : ∃ x ∈ ((Pool.empty.applyOps hist).upsert k w).ws, 0 < x) :
    let p := (Pool.empty.applyOps hist).upsert k w
    ((p.applyOps (List.replicate j Pool.Op.next)).nexts (W p.ws)).count (.sel i)
      = p.ws.getD i 0 / gcdW p.ws := by
  intro p
  rw [Pool.applyOps_replicate_next, Pool.nexts, show p.it = It.reset from (C01_change_resets _ k w).1]
  exact C01_window p.ws h i j

/-- **`UpsertServer` with any number of `Weight` options.**  A call with no or one valid option is the `upsert` of the history
theorems; a call that succeeds resets the iterator whatever its options; a call that **fails** (a negative weight after `m` valid
ones) adds no server, leaves the iterator where it was, and — on an existing server — leaves the last weight written before the
failure in the pool (`roundrobin/rr.go:200-208`: the error is returned before `resetState()`).  After such a call the pool's
weights have changed without a reset: `C01_window` is not claimed for the selections that follow it (the correspondence run and
the window monitor exercise them; a proof for arbitrary iterator positions is future work, see DESIGN §6 C01). -/
theorem C01_upsert_options (p : Pool κ) (k : κ) (xs : List Int) :
    (p.upsertOpts k [] = (p.upsert k none, true))
    ∧ (∀ w : Nat, p.upsertOpts k [(w : Int)] = (p.upsert k (some w), true))
    ∧ ((p.upsertOpts k xs).2 = true → (p.upsertOpts k xs).1.it = It.reset)
    ∧ ((p.upsertOpts k xs).2 = false →
        (p.upsertOpts k xs).1.it = p.it ∧ (p.upsertOpts k xs).1.keys = p.keys
        ∧ (p.upsertOpts k xs).1.ws.length = p.ws.length
        ∧ ∀ j, p.find k ≠ some j → (p.upsertOpts k xs).1.ws.getD j 0 = p.ws.getD j 0) := by
  refine ⟨?_, fun w => Pool.upsertOpts_ok (Pool.applyWeights_natCast _ w []), ?_⟩
  · -- no option: an existing server has its present weight written back, a new one gets the default
    rw [Pool.upsertOpts_ok (v := (p.weight k).getD 0) rfl]
    unfold Pool.upsert Pool.weight
    cases p.find k with
    | none => rfl
    | some i => simp only [Option.getD_some, set_getD_self]
  · rcases hr : Pool.applyWeights ((p.weight k).getD 0) xs with ⟨v, _ | _⟩
    · rw [Pool.upsertOpts_fail hr]
      refine ⟨fun h => Bool.noConfusion h, fun _ => ?_⟩
      dsimp only
      cases hf : p.find k with
      | none => exact ⟨rfl, rfl, rfl, fun _ _ => rfl⟩
      | some i =>
        refine ⟨rfl, rfl, List.length_set, fun j hj => ?_⟩
        rw [List.getD_eq_getElem?_getD, List.getElem?_set_ne fun e => hj (congrArg some e), List.getD_eq_getElem?_getD]
    · rw [Pool.upsertOpts_ok hr]
      exact ⟨fun _ => (C01_change_resets p k _).1, fun h => Bool.noConfusion h⟩

/-- `nextFrom` / `nextServerFrom` (what the driver runs) is `next` / `nextServer` (what the theorems are about) whenever `next`
does not run out of fuel — by `next_after_sel` that is every position reached from a reset. -/
theorem C01_nextFrom_eq_next (ws : List Nat) (s : It) (k : Nat) (h : (next ws s).1 ≠ .outOfFuel) :
    nextFrom ws (k + 1) s = next ws s := by
  unfold nextFrom
  split
  · rename_i s' heq; rw [heq] at h; exact absurd rfl h
  · rfl

/-- the weight a failed call leaves behind is the last valid option before the invalid one -/
theorem C01_failed_upsert_weight (w : Nat) (ys : List Nat) (x : Int) (hx : x < 0) (zs : List Int) :
    Pool.applyWeights w (ys.map (fun y : Nat => (y : Int)) ++ x :: zs) = ((ys.getLast?).getD w, false) := by
  induction ys generalizing w with
  | nil => exact if_pos hx
  | cons y ys ih =>
    rw [List.map_cons, List.cons_append, Pool.applyWeights_natCast, ih, List.getLast?_cons, Option.getD_some]

/-- non-vacuity: pool a:2 b:2 one selection in, then `UpsertServer(a, Weight(3), Weight(-1))`: error, a now weighs 3, the
iterator still stands behind a -/
example :
    let p := ((Pool.empty (κ := String)).upsert "a" (some 2)).upsert "b" (some 2)
    let q := (p.nextServer).2
    (q.upsertOpts "a" [3, -1]).2 = false ∧ (q.upsertOpts "a" [3, -1]).1.ws = [3, 2]
    ∧ (q.upsertOpts "a" [3, -1]).1.it = q.it ∧ q.it ≠ It.reset := by decide +kernel

end history

/-- **C01 (concurrent callers)**: whatever the interleaving of callers, the combined sequence of
    selections is the sequential one (each call is one atomic step), so the window law holds for it. -/
theorem C01_concurrent {τ : Type} (ws : List Nat) (sched : List τ) (s : It) :
    (Pool.runSched ws sched s).map Prod.snd = run ws sched.length s := by
  induction sched generalizing s with
  | nil => rfl
  | cons t sched ih => simp only [Pool.runSched, List.map_cons, List.length_cons, run]; rw [ih]

/-! ### non-vacuity: concrete pools satisfy the hypotheses, and the numbers are the expected ones -/
example : ∃ w ∈ [3, 0, 6, 9], 0 < w := ⟨3, List.mem_cons_self, Nat.zero_lt_succ 2⟩
example : W [3, 0, 6, 9] = 6 ∧ gcdW [3, 0, 6, 9] = 3 := by decide +kernel
example : (run [3, 0, 6, 9] 6 (after [3, 0, 6, 9] 4 It.reset)).count (.sel 3) = 3 := by decide +kernel
example : run [5, 1, 1] 7 It.reset = [.sel 0, .sel 0, .sel 0, .sel 0, .sel 0, .sel 1, .sel 2] := by decide +kernel

end C01
