import OxyModel.Proofs.ConnLimit.Rejecting

/-!
# C04 — per-source concurrency never exceeds the limit; slots are always returned

Property theorems only (helper lemmas: `OxyModel/Proofs/ConnLimit`).  Model:
`OxyModel/Model/ConnLimit.lean`: `ConnLimit.step` = `ConnLimiter.ServeHTTP` cut at its two lock-atomic
steps `acquire` / deferred `release`, under the layer `ConnLimit.stepR` that also tracks rejections
*in progress* (requests parked inside a slow `ErrorHandler`; `slow = false` is the default handler,
for which the layer is `step` itself: `ConnLimit.fast_runR`).  A *history* is any list of events — any
interleaving of arrivals and completions of any number of requests and sources, including protocol
misuse (`finish` of an unknown id), extractor errors, both exit modes and any number of rejections in
progress.  Every statement about "the state after `h`" quantifies over all `h`, hence over every
prefix of every interleaving.  `s.base.inflight` are the requests inside the protected handler.
-/
namespace C04
open ConnLimit

/-- **C04 (bound)**: for every limit, either kind of error handler, every history whose extractor
    amounts are `≥ 1`, every prefix of it and every source: the number of that source's requests
    inside the protected handler is at most the limit (`0` when the limit is negative).
    `amount ≥ 1` is needed: the code admits on `connections[src] < max` and then adds `amount`, so
    an extractor that returns `0` (or a negative amount) is never limited — see the `example` below. -/
theorem C04_inflight_le_max (mx : Int) (slow : Bool) (h : List Event) (hp : amountsPos h = true) (k : Nat) (src : String) :
    inflightCount (runR (SysR.init mx slow) (h.take k)).base.inflight src ≤ mx.toNat := by
  have := (Safe.after_runR (s := SysR.init mx slow) (Safe.init mx) _ (amountsPos_take (amountsPos_spec hp) k)).bound src
  rwa [runR_max] at this

/-- **C04 (429 only when full, and always when full)**: after any unit-amount history (the built-in
    extractors, C19) a newly arriving request of `src` is turned away (answered 429, or parked in the
    slow error handler on its way to 429) iff `src` already has `max` requests inside the protected
    handler, and admitted otherwise — rejections in progress do not count.  (`id` not in use: the
    harness never reuses the id of a request that has not ended.) -/
theorem C04_reject_iff_full (mx : Int) (slow : Bool) (h : List Event) (h1 : amountsOne h = true) (id src : String)
    (hfresh : findReq (runR (SysR.init mx slow) h).base.inflight id = none)
    (hfreshR : findRej (runR (SysR.init mx slow) h).rejecting id = none) :
    let s := runR (SysR.init mx slow) h
    let o := (stepR s (.start id src 1)).2
    ((o = .base .rejected ∨ o = .rejecting) ↔ mx ≤ (inflightCount s.base.inflight src : Int)) ∧
    (o = .base .admitted ↔ (inflightCount s.base.inflight src : Int) < mx) ∧
    (0 ≤ mx → ((o = .base .rejected ∨ o = .rejecting) ↔ (inflightCount s.base.inflight src : Int) = mx)) := by
  intro s o
  have hu : Unit1 s.base := Unit1.after_runR (s := SysR.init mx slow) (Unit1.init mx) h (amountsOne_spec h1)
  have hmax : s.base.max = mx := runR_max _ _
  obtain ⟨hrej, hadm⟩ := hu.startR_iff id src hfresh hfreshR
  have hb := hu.bound src
  rw [hmax] at hrej hadm hb
  exact ⟨hrej, hadm, fun h0 => hrej.trans ⟨fun hle => by omega, fun he => by omega⟩⟩

/-- **C04 (the table is exact)**: after every history (any amounts, exits, misuse, rejections in
    progress) the table entry of every source is exactly what the requests still inside the protected
    handler hold, and `totalConnections` is their sum: no finished request — returned or panicked —
    keeps a slot, no running one lost it, and no request that is being rejected has one. -/
theorem C04_slots_exact (mx : Int) (slow : Bool) (h : List Event) (src : String) :
    let s := runR (SysR.init mx slow) h
    get s.base.st.conns src = heldBy s.base.inflight src ∧ s.base.st.total = heldAll s.base.inflight := by
  intro s
  have hi : Inv s.base := Inv.after_runR (s := SysR.init mx slow) (Inv.init mx) h
  exact ⟨hi.acct src, hi.tot⟩

/-- **C04 (a rejection holds nothing)**: in every state, an arrival that is turned away — answered 429
    at once or parked in the slow error handler — leaves the limiter (table, total, requests inside the
    handler) exactly as it was, and so does the end of a rejection in progress.  Hence the decision
    for any later arrival (`C04_reject_iff_full`) cannot depend on rejections, finished or not. -/
theorem C04_rejection_holds_nothing (s : SysR) (e : Event)
    (ho : (stepR s e).2 = .base .rejected ∨ (stepR s e).2 = .rejecting ∨ (stepR s e).2 = .rejectedDone) :
    (stepR s e).1.base = s.base := by
  rcases stepR_cases s e with hc | ⟨hc, _⟩
  · rw [hc] at ho ⊢
    rcases ho with ho | ho | ho
    · exact step_rejected_same _ _ (OutR.base.inj ho)
    · cases ho
    · cases ho
  · exact hc

/-- **C04 (slot returned on every exit)**: in every reachable state, for every request `r` inside the
    handler, leaving it — by return *or* by panic — gives back exactly `r.amount` to `r.src`, touches
    no other source, takes `r` (and only `r`) out of the handler; the two exit modes lead to the
    same state. -/
theorem C04_release_on_every_exit (mx : Int) (slow : Bool) (h : List Event) (id : String) (r : Req)
    (hf : findReq (runR (SysR.init mx slow) h).base.inflight id = some r)
    (hr : findRej (runR (SysR.init mx slow) h).rejecting id = none) (how : Exit) :
    let s := runR (SysR.init mx slow) h
    let s' := (stepR s (.finish id how)).1
    (stepR s (.finish id how)).2 = .base .released ∧
    get s'.base.st.conns r.src = get s.base.st.conns r.src - r.amount ∧
    s'.base.st.total = s.base.st.total - r.amount ∧
    (∀ k, k ≠ r.src → get s'.base.st.conns k = get s.base.st.conns k) ∧
    (∀ k, inflightCount s'.base.inflight k + (if r.src = k then 1 else 0) = inflightCount s.base.inflight k) ∧
    stepR s (.finish id .normal) = stepR s (.finish id .panic) := by
  intro s s'
  -- the finish passes the layer, and the limiter under it releases `r`, whichever way the handler was left
  have e : ∀ how, stepR s (.finish id how) =
      ({ s with base := { s.base with st := release s.base.st r.src r.amount, inflight := dropReq s.base.inflight id } },
        .base .released) :=
    fun how => by rw [stepR_finish hr, step_finish hf]
  have hs' : s'.base = ⟨s.base.max, release s.base.st r.src r.amount, dropReq s.base.inflight id⟩ :=
    congrArg (·.1.base) (e how)
  refine ⟨congrArg (·.2) (e how), ?_, ?_, ?_, ?_, (e _).trans (e _).symm⟩
  · rw [hs']; exact release_get_same _ _ _
  · rw [hs']; rfl
  · intro k hk; rw [hs']; exact release_get_other _ _ _ _ hk
  · intro k; rw [hs']; exact count_dropReq hf k

/-- **C04 (quiescence restores the full limit)**: after every history (any amounts, exits, misuse)
    that leaves no request inside the protected handler — rejections may still be in progress — the
    table is empty and the total is zero, i.e. the limiter is in its initial state, and therefore `max`
    further arrivals of any one source are all admitted. -/
theorem C04_quiescent_restores_max (mx : Int) (slow : Bool) (h : List Event)
    (hq : (runR (SysR.init mx slow) h).base.inflight = []) :
    (runR (SysR.init mx slow) h).base = Sys.init mx ∧
    ∀ (src : String) (ids : List String), ids.Nodup → (ids.length : Int) ≤ mx →
      (∀ r ∈ (runR (SysR.init mx slow) h).rejecting, r.id ∉ ids) →
      outsR (runR (SysR.init mx slow) h) (ids.map fun id => Event.start id src 1)
        = List.replicate ids.length (OutR.base .admitted) := by
  have hinit : (runR (SysR.init mx slow) h).base = Sys.init mx := by
    have := (Inv.after_runR (s := SysR.init mx slow) (Inv.init mx) h).eq_init hq
    rwa [runR_max] at this
  refine ⟨hinit, fun src ids hnd hlen hfr => ?_⟩
  have hu : Unit1 (runR (SysR.init mx slow) h).base := by rw [hinit]; exact Unit1.init mx
  apply hu.admit_allR src ids hnd
  · intro r hr; rw [hinit] at hr; simp [Sys.init] at hr
  · exact hfr
  · rw [hinit]; simp [Sys.init, inflightCount]; exact hlen

/-! ### non-vacuity and sharpness -/

/-- an interleaving of two sources with both exit modes; limit 1 -/
private def demo : List Event :=
  [.start "a" "s" 1, .start "b" "s" 1, .start "c" "t" 1, .finish "a" .panic, .start "d" "s" 1,
   .finish "zz" .normal, .startErr "e", .finish "c" .normal, .finish "d" .normal]

example : outsR (SysR.init 1 false) demo =
    [.base .admitted, .base .rejected, .base .admitted, .base .released, .base .admitted, .base .unknown,
     .base .extractErr, .base .released, .base .released] := by
  decide +kernel
example : amountsPos demo = true ∧ amountsOne demo = true := by decide +kernel
example : (runR (SysR.init 1 false) demo).base.inflight = [] := by decide +kernel
example : findReq (runR (SysR.init 1 true) (demo.take 3)).base.inflight "a" = some ⟨"a", "s", 1⟩ := by decide +kernel
example : findReq (runR (SysR.init 1 true) (demo.take 3)).base.inflight "fresh" = none ∧
    findRej (runR (SysR.init 1 true) (demo.take 3)).rejecting "fresh" = none := by decide +kernel

/-- a rejection in progress does not occupy a slot: limit 1, `a` admitted, `b` parked in the slow error
    handler, `a` finishes, `c` arrives while `b` is still being rejected — and is admitted -/
example : outsR (SysR.init 1 true) [.start "a" "s" 1, .start "b" "s" 1, .finish "a" .normal, .start "c" "s" 1,
      .start "b" "s" 1, .finish "b" .normal, .start "d" "s" 1] =
    [.base .admitted, .rejecting, .base .released, .base .admitted, .base .dup, .rejectedDone, .rejecting] := by
  decide +kernel

/-- sharpness of `amount ≥ 1`: with an extractor amount of `0` three requests of one source are
    inside the handler under limit 1 -/
example : inflightCount (runR (SysR.init 1 false) [.start "a" "s" 0, .start "b" "s" 0, .start "c" "s" 0]).base.inflight "s" = 3 := by
  decide +kernel

/-- with amount 2 the table entry may exceed the limit while the *number of requests* does not -/
example : let s := (runR (SysR.init 3 false) [.start "a" "s" 2, .start "b" "s" 2, .start "c" "s" 2]).base
    get s.st.conns "s" = 4 ∧ inflightCount s.inflight "s" = 2 := by decide +kernel

end C04
