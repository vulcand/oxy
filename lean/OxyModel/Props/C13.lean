import OxyModel.Proofs.RateLimit.Retry

/-!
# C13 — rejected requests cost nothing and the advertised wait is sufficient

Model as for C03.  Set level = `RL.consumeSet` (`TokenBucketSet.Consume`), limiter level =
`RL.Limiter.serve` (`TokenLimiter.consumeRates`), the latter also across entry expiry and eviction.

Reading of "a rejected request consumes no quota": no bucket is debited (`C13_reject_no_debit`: the state
after a refusal is *exactly* the state after a bare refill, for every subset of refusing buckets), a
flood of refused requests is indistinguishable from the same number of amount-0 requests and never
lowers any bucket (`C13_flood_free`), and at one instant it changes nothing at all
(`C13_flood_free_same_instant`).  What is *not* true of the code — and is therefore not claimed — is that
a refused request leaves every *later* outcome unchanged: like every request it makes the bucket credit
the whole tokens accrued so far and drop the sub-token remainder of elapsed time
(`updateAvailableTokens` sets `lastRefresh = now`), see `C13_flood_outcome_counterexample`.
-/
namespace C13
open RL TTL

/-! ### no debit on refusal -/

/-- **A refused request debits no bucket**: whatever subset of buckets refused (delay or error), every
    bucket of the set is afterwards exactly what a bare refill at that instant would have made it. -/
theorem C13_reject_no_debit (bs : List Bucket) (now n : Nat) (h : (consumeSet bs now n).2 ≠ .ok) :
    (consumeSet bs now n).1 = bs.map (fun b => { b.refill now with lastConsumed := 0 }) :=
  reject_no_debit bs now n h

/-- … and an admitted one debits every bucket by exactly the amount -/
theorem C13_admit_debits_all (bs : List Bucket) (now n : Nat) (htpt : ∀ b ∈ bs, 0 < b.tpt)
    (h : (consumeSet bs now n).2 = .ok) :
    (consumeSet bs now n).1 = bs.map (fun b => { b.refill now with avail := (b.refill now).avail - n, lastConsumed := n })
    ∧ ∀ b ∈ bs, n ≤ (b.refill now).avail :=
  admit_debits_all bs now n htpt h

/-- through the limiter: after a 429 / 500 the source's tracked bucket set is the set the request found
    (tracked one, or a new one) with every bucket merely refilled. -/
theorem C13_reject_no_debit_limiter (l : Limiter) (now : Nat) (src : String) (amount : Nat) (rr : List Rate) (victim : String)
    (h : (l.serve now src amount rr victim).2 ≠ .ok) :
    ∃ e, (l.serve now src amount rr victim).1.sets.find? src = some e ∧
      e.val.buckets = (l.current now src (l.resolve rr)).buckets.map (fun b => { b.refill now with lastConsumed := 0 }) := by
  refine ⟨_, by rw [serve_find, if_pos rfl], ?_⟩
  rw [serve_resp] at h
  rw [current_eq]
  exact reject_no_debit _ now amount (fun hok => h ((ofSRes_ok _).mpr hok))

/-! ### floods -/

/-- **Floods of refused requests cannot drain any budget.**  A history of requests that were all refused
    leaves the set in exactly the state the same number of amount-0 requests at the same instants
    would, and no bucket holds fewer tokens than before. -/
theorem C13_flood_free (bs : List Bucket) (hav : ∀ b ∈ bs, b.avail ≤ b.burst) (flood : List (Nat × Nat))
    (hrej : ∀ r ∈ runSet bs flood, r ≠ .ok) :
    afterSet bs flood = afterSet bs (flood.map (fun p => (p.1, 0))) ∧
    List.Forall₂ (fun b b' => b.avail ≤ b'.avail ∧ b'.avail ≤ b'.burst ∧ b'.burst = b.burst ∧ b'.tpt = b.tpt ∧ b'.period = b.period)
      bs (afterSet bs flood) :=
  ⟨flood_as_touches bs flood hrej,
    (flood_no_drain flood bs bs (List.forall₂_same.mpr fun b hb => NoLoss.refl (hav b hb)) hrej).imp
      fun _ _ h => ⟨h.avail_le, h.within, h.burst_eq, h.tpt_eq, h.period_eq⟩⟩

/-- **At one instant a flood is invisible**: after any request at time `t` (admitted or not), any number
    of refused requests at `t` leave the outcome *and* the effect of the next request at `t` unchanged. -/
theorem C13_flood_free_same_instant (bs0 : List Bucket) (t n0 : Nat) (flood : List (Nat × Nat))
    (ht : ∀ p ∈ flood, p.1 = t) (hrej : ∀ r ∈ runSet (consumeSet bs0 t n0).1 flood, r ≠ .ok) (n' : Nat) :
    consumeSet (afterSet (consumeSet bs0 t n0).1 flood) t n' = consumeSet (consumeSet bs0 t n0).1 t n' :=
  flood_same_instant t flood ht n' _ hrej

/-- The stronger reading "refused requests between two admitted ones never change the second one's
    outcome" is false of the code: `tpt = 100`, empty bucket refreshed at 0.  Alone, a
    request of 2 at `t = 200` is admitted.  After a refused request of 5 at `t = 150` (which credits one
    token and moves `lastRefresh` to 150, dropping 50 ns) it is refused with delay 100. -/
theorem C13_flood_outcome_counterexample :
    (⟨1000, 100, 5, 0, 0, 0⟩ : Bucket).WF 0 ∧
    (consumeSet [⟨1000, 100, 5, 0, 0, 0⟩] 200 2).2 = .ok ∧
    (consumeSet [⟨1000, 100, 5, 0, 0, 0⟩] 150 5).2 = .delay 400 ∧
    (consumeSet (consumeSet [⟨1000, 100, 5, 0, 0, 0⟩] 150 5).1 200 2).2 = .delay 100 := by decide +kernel

/-- **What a refused request does cost: less than one token interval of accrued time per bucket.**
    A refusal leaves every bucket as its bare refill (`C13_reject_no_debit`); that refill (like the one of an
    admitted request) moves `lastRefresh` to `now` when at least one whole token has accrued and drops the
    remainder.  For every well-formed bucket: (i) if less than `tpt` has passed since `lastRefresh` the bucket is
    untouched — refusals less than `tpt` apart lose nothing; (ii) the time credited is never more than the time
    that passed (`tpt · credited ≤ lr' − lr`), and (iii) unless the bucket is full afterwards, less than `tpt` is
    discarded (`lr' − lr < tpt · credited + tpt`).  So `k` refusals cost a bucket fewer than `k` tokens, and
    refusals spaced just under `2·tpt` can halve its refill rate — but never more. -/
theorem C13_refusal_loss_bound (b : Bucket) (now : Nat) (hb : b.WF now) :
    (now - b.lr < b.tpt → b.refill now = b) ∧
    b.lr + b.tpt * ((b.refill now).avail - b.avail) ≤ (b.refill now).lr ∧
    ((b.refill now).avail < b.burst →
      (b.refill now).lr < b.lr + b.tpt * ((b.refill now).avail - b.avail) + b.tpt) := by
  obtain ⟨c, h1, h2, ha, hl⟩ := refill_accrual b now hb
  obtain ⟨htpt, hav, hlr⟩ := hb
  refine ⟨fun h => refill_eq_self (Nat.div_eq_of_lt h) hav, ?_⟩
  rw [ha, hl]
  rcases Nat.eq_zero_or_pos c with rfl | hc
  · rw [if_pos rfl, Nat.add_zero, Nat.min_eq_left hav, Nat.sub_self, Nat.mul_zero, Nat.add_zero]
    exact ⟨Nat.le_refl _, fun _ => Nat.lt_add_of_pos_right htpt⟩
  · rw [if_neg (Nat.ne_of_gt hc)]
    constructor
    · -- what is credited is at most what accrued, and that is paid for by elapsed time
      have hcr : b.tpt * (min (b.avail + c) b.burst - b.avail) ≤ b.tpt * c := Nat.mul_le_mul_left _ (by omega)
      omega
    · intro hfull
      -- below the burst nothing was capped: all of `c` is credited
      have hnc : b.avail + c ≤ b.burst := by
        apply Nat.le_of_not_lt
        intro hcap
        rw [Nat.min_eq_right (Nat.le_of_lt hcap)] at hfull
        exact Nat.lt_irrefl _ hfull
      rw [Nat.min_eq_left hnc, Nat.add_sub_cancel_left]
      exact h2

/-! ### the advertised delay -/

/-- **The advertised delay suffices** (set level): refused with delay `d` at `now`, retried at any
    `t' ≥ now + d` with nothing in between ⇒ admitted. -/
theorem C13_delay_sufficient (bs : List Bucket) (now n d : Nat) (hwf : ∀ b ∈ bs, b.WF now)
    (h : (consumeSet bs now n).2 = .delay d) (t' : Nat) (ht : now + d ≤ t') :
    (consumeSet (consumeSet bs now n).1 t' n).2 = .ok :=
  delay_sufficient bs now n d hwf h t' ht

-- `hwf` is part of the statement but not used by the proof (the unused-variable linter says so)
/-- the delay is positive and at most the time the slowest bucket needs for the whole amount -/
theorem C13_delay_bounds (bs : List Bucket) (now n d : Nat) (hwf : ∀ b ∈ bs, b.WF now)
    (h : (consumeSet bs now n).2 = .delay d) : 0 < d ∧ ∃ b ∈ bs, d ≤ n * b.tpt := by
  obtain ⟨hpos, _, _, b, hb, hd⟩ := consumeSet_delay bs now n d h
  obtain ⟨_, _, hd⟩ := (consume_delay_iff b now n d).mp hd
  refine ⟨hpos, b, hb, ?_⟩
  rw [hd]
  exact Nat.mul_le_mul_right _ (Nat.sub_le _ _)

/-- the configuration conditions of the limiter-level theorems -/
abbrev ValidRates := RL.ValidRates
/-- invariant of every limiter state reachable with the default rates `rates` (see `C13_reachable`) -/
abbrev LimiterInv := RL.LimiterInv

/-- every state reachable from `ratelimit.New` by requests with non-decreasing time stamps satisfies
    the invariant the limiter-level theorems assume -/
theorem C13_reachable (rates : List Rate) (hv : ValidRates rates) (capacity : Nat) (reqs : List Req)
    (hs : SortedFrom 0 (reqs.map (·.t))) :
    LimiterInv rates ((Limiter.new rates capacity).after reqs) (lastTime 0 reqs) :=
  inv_after rates hv reqs _ 0 (inv_new rates capacity) hs

/-- **The advertised delay suffices** (through the limiter, across expiry and eviction): a request of
    `src` answered `429` with `X-Retry-In = d` at `t`, then *any* requests of other sources (which may
    even evict `src`), then the same request at any `t' ≥ t + d` ⇒ `200`. -/
theorem C13_delay_sufficient_limiter (rates : List Rate) (hv : ValidRates rates) (l : Limiter) (now : Nat)
    (hinv : LimiterInv rates l now) (t : Nat) (hnt : now ≤ t) (src : String) (n d : Nat) (v : String)
    (h : (l.serve t src n [] v).2 = .tooMany d)
    (others : List Req) (hoth : ∀ r ∈ others, r.src ≠ src) (t' : Nat) (ht : t + d ≤ t') (v' : String) :
    (((l.serve t src n [] v).1.after others).serve t' src n [] v').2 = .ok := by
  rw [serve_resp_current hinv.1, ofSRes_delay] at h
  obtain ⟨tl, htl, hm⟩ := inv_current hv hinv hnt src
  refine retry_of_set hv hinv hnt src n v others hoth t' n ?_ v'
    (delay_sufficient _ t n d (matches_wf tl t _ rates hm htl) h t' ht)
  obtain ⟨_, hburst, _⟩ := consumeSet_delay _ t n d h
  exact (matches_bursts tl _ rates hm n).mp hburst

/-! ### idle sources -/

/-- **Idle for `burst × tpt` ⇒ full burst** (one bucket) -/
theorem C13_idle_full_burst (b : Bucket) (t0 now : Nat) (hb : b.WF t0) (h : t0 + b.burst * b.tpt ≤ now) :
    (b.refill now).avail = b.burst :=
  idle_full_burst b t0 now hb h

/-- a set idle that long admits every request no larger than its bursts -/
theorem C13_idle_admits (bs : List Bucket) (t0 now n : Nat) (hwf : ∀ b ∈ bs, b.WF t0)
    (hidle : ∀ b ∈ bs, t0 + b.burst * b.tpt ≤ now) (hn : ∀ b ∈ bs, n ≤ b.burst) :
    (consumeSet bs now n).2 = .ok :=
  idle_admits bs t0 now n hwf hidle hn

-- `htt` is part of the statement but not used by the proof: `retry_of_set` needs no order between the two requests
-- (the unused-variable linter says so)
/-- through the limiter: whatever `src`'s last request at `t` was and got, after `burst × tpt` of every
    rate without a request of its own (other sources may do anything) any request up to the smallest
    burst is admitted — whether the entry is still tracked, has expired or was evicted. -/
theorem C13_idle_full_burst_limiter (rates : List Rate) (hv : ValidRates rates) (l : Limiter) (now : Nat)
    (hinv : LimiterInv rates l now) (t : Nat) (hnt : now ≤ t) (src : String) (n : Nat) (v : String)
    (others : List Req) (hoth : ∀ r ∈ others, r.src ≠ src) (t' : Nat) (htt : t ≤ t')
    (hidle : ∀ r ∈ rates, t + r.burst * tptOf r.period r.average ≤ t') (n' : Nat) (hn' : ∀ r ∈ rates, n' ≤ r.burst)
    (v' : String) :
    (((l.serve t src n [] v).1.after others).serve t' src n' [] v').2 = .ok := by
  obtain ⟨tl, htl, hm⟩ := inv_current hv hinv hnt src
  have hm1 := matches_consumeSet tl t n _ rates hm htl
  refine retry_of_set hv hinv hnt src n v others hoth t' n' hn' v'
    (idle_admits _ t t' n' (matches_wf t t _ rates hm1 (Nat.le_refl _)) ?_ ((matches_bursts t _ rates hm1 n').mpr hn'))
  intro b hb
  obtain ⟨r, hr, hbr⟩ := forall₂_mem_left _ _ _ hm1 b hb
  rw [hbr.tpt_eq, hbr.burst_eq]; exact hidle r hr

/-! ### larger than the burst -/

/-- **A request larger than some burst is refused outright with an error, never with a delay — and only
    then** (set level; no hypothesis at all). -/
theorem C13_over_burst_is_error (bs : List Bucket) (now n : Nat) :
    (consumeSet bs now n).2 = .err ↔ ∃ b ∈ bs, b.burst < n :=
  consumeSet_err_iff bs now n

/-- through the limiter: `500` exactly when the amount exceeds the burst of some configured rate -/
theorem C13_over_burst_is_error_limiter (rates : List Rate) (hv : ValidRates rates) (l : Limiter) (now : Nat)
    (hinv : LimiterInv rates l now) (t : Nat) (hnt : now ≤ t) (src : String) (n : Nat) (v : String) :
    (l.serve t src n [] v).2 = .err ↔ ∃ r ∈ rates, r.burst < n := by
  obtain ⟨tl, _, hm⟩ := inv_current hv hinv hnt src
  rw [serve_resp_current hinv.1, ofSRes_err, consumeSet_err_iff]
  -- buckets and rates have the same bursts: the negation of `matches_bursts`
  simpa only [Classical.not_forall, Classical.not_imp, Nat.not_le, exists_prop]
    using not_congr (matches_bursts tl _ rates hm n)

/-! ### non-vacuity -/
section NonVacuity

-- the loss bound on the counterexample's bucket: at 150 one token is credited and 50 ns (< tpt = 100) are dropped
example : (⟨1000, 100, 5, 0, 0, 0⟩ : Bucket).WF 150 ∧ ((⟨1000, 100, 5, 0, 0, 0⟩ : Bucket).refill 150).lr = 150 ∧
    ((⟨1000, 100, 5, 0, 0, 0⟩ : Bucket).refill 150).avail = 1 := by decide +kernel
-- two rates (1 s: burst 1; 1 h: 100 tokens, burst 100): the short one refuses, the long one is not debited
example : (consumeSet [mkBucket ⟨second, 1, 1⟩ 0, mkBucket ⟨3600 * second, 100, 100⟩ 0] 0 1).2 = .ok ∧
    (consumeSet (consumeSet [mkBucket ⟨second, 1, 1⟩ 0, mkBucket ⟨3600 * second, 100, 100⟩ 0] 0 1).1 5 1).2
      = .delay 1000000000 ∧
    ((consumeSet (consumeSet [mkBucket ⟨second, 1, 1⟩ 0, mkBucket ⟨3600 * second, 100, 100⟩ 0] 0 1).1 5 1).1.map (·.avail))
      = [0, 99] := by decide +kernel
example : ValidRates [⟨second, 1, 1⟩, ⟨3600 * second, 100, 100⟩] := ⟨by decide +kernel, by decide +kernel⟩
-- a limiter state satisfying the invariant in which a request is answered 429
example : LimiterInv [⟨second, 1, 1⟩] (Limiter.new [⟨second, 1, 1⟩] 2) 0 := inv_new _ _
example : (((Limiter.new [⟨second, 1, 1⟩] 2).serve 0 "a" 1 [] "").1.serve 5 "a" 1 [] "").2 = .tooMany 1000000000 := by decide +kernel
-- a request above the burst
example : ((Limiter.new [⟨second, 1, 1⟩] 2).serve 0 "a" 2 [] "").2 = .err := by decide +kernel

end NonVacuity

end C13
