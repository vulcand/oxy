import OxyModel.Proofs.CBreaker.Machine

/-!
# C05 — a tripped circuit breaker shields the backend

Property theorems only (helper lemmas: `OxyModel/Proofs/CBreaker/Machine.lean`).  Model:
`OxyModel/Model/CBreaker.lean` — `CB.arrive` = `activateFallback`, `CB.complete` = `Record` + `checkAndSet`.
A trace is any list of `arrive t`, `record t code`, `check t oracle` and `complete t code oracle` events
(`complete` = `record` then `check` with nothing in between; `record` is `metrics.Record`, which does not
run under the breaker's lock, so other requests' steps may fall between a request's `record` and its
`check`), i.e. any interleaving of overlapping requests at the granularity of the code's critical sections;
`step c (run c b pre).1 e` is what event `e` shows after the history `pre`
(`CB.obs_at`: it is the `pre.length`-th observation of every trace that extends `pre ++ [e]`).
All theorems hold from **every** breaker state `b`, in particular from `Brk.init` and every reachable state.
-/
namespace C05
open CB CBExpr

/-- time stamps never decrease along the trace (the frozen clock only advances) -/
def Sorted (es : List Ev) : Prop := es.Pairwise (fun x y => x.time ≤ y.time)

/-- **shield**: if the event `e` (a `check`, or a `complete`) trips the breaker at `T = e.time` (it shows
    `done true`), then after any further events `mid` (arrivals, records and checks of requests admitted
    earlier in any interleaving, any response codes, any clock advances) a request arriving at
    `t < T + fallbackDuration` is answered by the fallback, and the breaker is still tripped with the
    deadline `T + fallbackDuration`.  (Events of `mid` lie in `[T, t]` by sortedness; no second trip can
    intervene, so `T` is the latest trip.) -/
theorem C05_tripped_shields (c : Cfg) (b : Brk) (pre mid : List Ev) (e : Ev) (t : Nat)
    (hsorted : Sorted (pre ++ e :: (mid ++ [.arrive t])))
    (htrip : (step c (run c b pre).1 e).2 = .done true)
    (hlt : t < e.time + c.fallbackDur) :
    (step c (run c b (pre ++ e :: mid)).1 (.arrive t)).2 = .fallback ∧
    (run c b (pre ++ e :: mid)).1.state = .tripped ∧
    (run c b (pre ++ e :: mid)).1.until_ = e.time + c.fallbackDur := by
  have f := step_done_true c (run c b pre).1 e htrip
  have hs2 := (List.pairwise_append.mp hsorted).2.1
  have hs3 := (List.pairwise_cons.mp hs2).2
  have hmid : ∀ e' ∈ mid, e'.time ≤ t := by
    intro e' he
    exact (List.pairwise_append.mp hs3).2.2 e' he (.arrive t) (by simp)
  have hfin : (run c b (pre ++ e :: mid)).1 = (run c (step c (run c b pre).1 e).1 mid).1 := by
    rw [run_append, run_cons]
  obtain ⟨s1, s2, _, _, _⟩ := shield c mid (step c (run c b pre).1 e).1 f.state
    (fun e' he => by rw [f.until_]; exact Nat.lt_of_le_of_lt (hmid e' he) hlt)
  rw [hfin]
  refine ⟨?_, s1, by rw [s2, f.until_]⟩
  rw [step_arrive, arrive_tripped_before c _ t s1 (by rw [s2, f.until_]; exact hlt)]
  rfl

/-- every event of the shielded interval: arrivals get the fallback, records record, no check trips again -/
theorem C05_tripped_shields_all (c : Cfg) (b : Brk) (e : Ev) (mid : List Ev)
    (htrip : (step c b e).2 = .done true)
    (hlt : ∀ e' ∈ mid, e'.time < e.time + c.fallbackDur) :
    (run c (step c b e).1 mid).2 = mid.map shieldObs := by
  have f := step_done_true c b e htrip
  exact (shield c mid _ f.state (fun e' he => by rw [f.until_]; exact hlt e' he)).2.2.2.2

/-- **standby passes**: in standby every request is handed to the protected handler, state untouched -/
theorem C05_standby_passes (c : Cfg) (b : Brk) (t : Nat) (h : b.state = .standby) :
    step c b (.arrive t) = (b, .pass) := by
  rw [step_arrive, arrive_standby c b t h]
  rfl

/-- … and it stays that way until a check trips the breaker: along any trace from standby in which
    no check trips, the breaker is in standby and no request is answered by the fallback -/
theorem C05_standby_until_trip (c : Cfg) : ∀ (es : List Ev) (b : Brk), b.state = .standby →
    (∀ o ∈ (run c b es).2, o ≠ .done true) →
    (run c b es).1.state = .standby ∧ ∀ o ∈ (run c b es).2, o ≠ .fallback := by
  intro es
  induction es with
  | nil => intro b h _; exact ⟨by simpa [run_nil] using h, by simp [run_nil]⟩
  | cons e es ih =>
    intro b h hno
    rw [run_cons] at hno ⊢
    have hrest : ∀ o ∈ (run c (step c b e).1 es).2, o ≠ .done true := fun o ho =>
      hno o (List.mem_cons_of_mem _ ho)
    have hstep := step_standby c b e h (hno _ List.mem_cons_self)
    obtain ⟨i1, i2⟩ := ih _ hstep.1 hrest
    exact ⟨i1, fun o ho => (List.mem_cons.mp ho).elim (fun e => e ▸ hstep.2) (i2 o)⟩

/-- the only moves of the state -/
def Allowed (s s' : State) : Prop :=
  s' = s ∨ (s = .standby ∧ s' = .tripped) ∨ (s = .tripped ∧ s' = .recovering) ∨
  (s = .recovering ∧ s' = .standby) ∨ (s = .recovering ∧ s' = .tripped)

/-- **edges**: after every history `es`, whatever the next event `e`, the state stays or moves along
    standby → tripped → recovering → (standby | tripped) -/
theorem C05_edges (c : Cfg) (b : Brk) (es : List Ev) (e : Ev) :
    Allowed (run c b es).1.state (run c b (es ++ [e])).1.state := by
  have hfin : (run c b (es ++ [e])).1 = (step c (run c b es).1 e).1 := by
    rw [run_append, run_cons, run_nil]
  rw [hfin]
  cases step_edge c (run c b es).1 e with
  | same h _ _ => exact Or.inl h.symm
  | trip h1 h2 _ _ =>
    cases hs : (run c b es).1.state with
    | standby => exact Or.inr (Or.inl ⟨rfl, h2⟩)
    | tripped => exact absurd hs h1
    | recovering => exact Or.inr (Or.inr (Or.inr (Or.inr ⟨rfl, h2⟩)))
  | recover h1 h2 _ _ => exact Or.inr (Or.inr (Or.inl ⟨h1, h2⟩))
  | standby h1 h2 _ _ => exact Or.inr (Or.inr (Or.inr (Or.inl ⟨h1, h2⟩)))

/-- the breaker leaves `tripped` only through a request arriving at or after the deadline -/
theorem C05_tripped_until (c : Cfg) (b : Brk) (e : Ev) (h : b.state = .tripped)
    (h' : (step c b e).1.state ≠ .tripped) : b.until_ ≤ e.time ∧ ∃ t, e = .arrive t := by
  rcases step_cases c b e with ⟨t, rfl⟩ | ⟨_, f⟩ | ⟨_, _, q⟩
  · refine ⟨Nat.le_of_not_lt fun hlt => h' ?_, t, rfl⟩
    rw [step_arrive, arrive_tripped_before c b t h hlt]
    exact h
  · exact absurd h f.was
  · exact absurd (q.state.trans h) h'

/-! ### non-vacuity: a real trip with overlapping requests

`fallback 10 s, recovery 10 s, check period 100 ms, condition NetworkErrorRatio() > 0.5`; two requests are
admitted, the first one completes with 502 one millisecond later and trips the breaker; the second is
still in flight, completes inside the tripped interval; arrivals up to 1 ns before the deadline get the
fallback. -/
def T0 : Nat := RCnt.baseSinceZeroNs
def exCfg : Cfg := ⟨10000000000, 10000000000, 100000000, .cmp .gt .ner (.float 1 2)⟩
def exTrace : List Ev :=
  [.arrive T0, .arrive T0, .complete (T0 + 1000000) 502 [], .arrive (T0 + 1000000),
   .complete (T0 + 2000000) 200 [], .arrive (T0 + 10000999999)]

example : (run exCfg Brk.init exTrace).2 =
    [.pass, .pass, .done true, .fallback, .done false, .fallback] := by decide +kernel
example : Sorted exTrace := by unfold Sorted; decide +kernel

/-- overlapping completions *around* the trip, below the granularity of whole completions: both responses
    are recorded before either request reaches `checkAndSet`; the first check sees `{502, 200}`
    (`NetworkErrorRatio() >= 0.5`) and trips, the second is not due.  (Run to completion one after the other,
    `[502, 200]` would trip at the first and `[200, 502]` at the second with other metrics left behind.) -/
def exCfg2 : Cfg := ⟨10000000000, 10000000000, 100000000, .cmp .ge .ner (.float 1 2)⟩
def exTrace2 : List Ev :=
  [.arrive T0, .arrive T0, .record (T0 + 1000000) 502, .record (T0 + 1000000) 200,
   .check (T0 + 1000000) [], .check (T0 + 1000000) [], .arrive (T0 + 1000001)]
example : (run exCfg2 Brk.init exTrace2).2 =
    [.pass, .pass, .recorded, .recorded, .done true, .done false, .fallback] := by decide +kernel
example : new exCfg = some Brk.init := by decide +kernel

end C05
