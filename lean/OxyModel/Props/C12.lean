import OxyModel.Proofs.CBreaker.Ramp
import OxyModel.Proofs.CBreaker.Eval

/-!
# C12 — circuit-breaker recovery re-admits traffic along a bounded linear ramp

Property theorems only (helpers: `OxyModel/Proofs/CBreaker/{Machine,Ramp,Eval}.lean`).  Model: `CB.RC.allow` =
`ratioController.allowRequest`, `CB.arrive` = `activateFallback`.

A **recovery period** is described without reference to internal counters: the breaker `b` is tripped and
its deadline has passed (`b.until_ ≤ t0`); the request arriving at `t0` starts the recovery; `rest` is any
further history (arrivals in bursts, trickles, after idle gaps; records and checks of completing
requests in any interleaving, with any outcome) during which
the breaker stays `recovering` (`AllRecovering`: no re-trip, not yet back to standby).  `passes` /
`refusals` count the *observed* answers since recovery began (the arrival at `t0` included).  Every
prefix of such a history is such a history, so each statement holds at every instant of the period.
`b` is arbitrary, so this covers every recovery of every cycle.
-/
namespace C12
open CB CBExpr

def Sorted (es : List Ev) : Prop := es.Pairwise (fun x y => x.time ≤ y.time)

/-- everything the segment invariant gives for a recovery period -/
private theorem period (c : Cfg) (b : Brk) (t0 : Nat) (rest : List Ev)
    (hs : b.state = .tripped) (hdue : b.until_ ≤ t0) (hsorted : Sorted (.arrive t0 :: rest))
    (hrec : AllRecovering c b (.arrive t0 :: rest)) :
    (run c b (.arrive t0 :: rest)).1.state = .recovering ∧
    (run c b (.arrive t0 :: rest)).1.until_ = t0 + c.recoveryDur ∧
    (run c b (.arrive t0 :: rest)).1.rc.start = t0 ∧
    (run c b (.arrive t0 :: rest)).1.rc.dur = c.recoveryDur ∧
    (run c b (.arrive t0 :: rest)).1.rc.allowed = passes (run c b (.arrive t0 :: rest)).2 ∧
    (run c b (.arrive t0 :: rest)).1.rc.allowed + (run c b (.arrive t0 :: rest)).1.rc.denied =
      passes (run c b (.arrive t0 :: rest)).2 + refusals (run c b (.arrive t0 :: rest)).2 ∧
    (run c b (.arrive t0 :: rest)).1.tripped = b.tripped ∧
    (run c b (.arrive t0 :: rest)).1.standbys = b.standbys ∧
    (∀ t, t0 ≤ t → (∀ e ∈ rest, e.time ≤ t) → (run c b (.arrive t0 :: rest)).1.rc.Ramp t) := by
  have hp := List.pairwise_cons.mp hsorted
  have hrec' : AllRecovering c (step c b (.arrive t0)).1 rest := fun s hs' => hrec s (List.mem_cons_of_mem _ hs')
  rw [run_cons]
  -- from here on the breaker is the explicit record left by the first arrival: its fields compute
  rw [step_recover c b t0 hs hdue] at hrec' ⊢
  dsimp only at hrec' ⊢
  obtain ⟨iuntil, istart, idur, itripped, istandbys, _, iallowed, idenied, iramp⟩ :=
    segment c rest _ t0 rfl hrec' hp.2 (fun e he => hp.1 e he)
      (by show 2 * c.recoveryDur * 0 ≤ _; rw [Nat.mul_zero]; exact Nat.zero_le _)
  dsimp only at iallowed idenied
  -- the recovery-starting arrival itself was refused
  rw [passes_cons, refusals_cons, if_neg (show ¬ Obs.fallback = Obs.pass from nofun),
    if_pos (rfl : Obs.fallback = Obs.fallback), Nat.zero_add]
  exact ⟨allRecovering_final c rest _ rfl hrec', iuntil, istart, idur, by rw [iallowed]; exact Nat.zero_add _,
    by rw [iallowed, idenied]; omega, itripped, istandbys, iramp⟩

/-- **ramp bound**: at every instant `t` of the recovery period the fraction of requests passed to the
    protected handler since recovery began is at most `0.5 · (t − t0) / recoveryDuration`
    (cross-multiplied; `passes + refusals ≥ 1`), for every arrival pattern -/
theorem C12_ramp_bound (c : Cfg) (b : Brk) (t0 : Nat) (rest : List Ev) (t : Nat)
    (hs : b.state = .tripped) (hdue : b.until_ ≤ t0) (hsorted : Sorted (.arrive t0 :: rest))
    (hrec : AllRecovering c b (.arrive t0 :: rest)) (ht : ∀ e ∈ Ev.arrive t0 :: rest, e.time ≤ t) :
    2 * c.recoveryDur * passes (run c b (.arrive t0 :: rest)).2 ≤
      (t - t0) * (passes (run c b (.arrive t0 :: rest)).2 + refusals (run c b (.arrive t0 :: rest)).2) := by
  obtain ⟨_, _, hstart, hdur, hallowed, htotal, _, _, hramp⟩ := period c b t0 rest hs hdue hsorted hrec
  have hr := hramp t (ht (.arrive t0) List.mem_cons_self) (fun e he => ht e (List.mem_cons_of_mem _ he))
  unfold RC.Ramp at hr
  rw [hstart, hdur, htotal, hallowed] at hr
  exact hr

/-- **refused only at the ramp**: if the next request (at `t'`) is refused, passing it would have brought
    the fraction to or above the ramp: `(passes+1)/(passes+refusals+1) ≥ 0.5 · (t' − t0)/recoveryDuration` -/
theorem C12_refuse_only_if (c : Cfg) (b : Brk) (t0 : Nat) (rest : List Ev) (t' : Nat)
    (hs : b.state = .tripped) (hdue : b.until_ ≤ t0) (hsorted : Sorted (.arrive t0 :: rest))
    (hrec : AllRecovering c b (.arrive t0 :: rest))
    (hobs : (step c (run c b (.arrive t0 :: rest)).1 (.arrive t')).2 = .fallback) :
    (t' - t0) * (passes (run c b (.arrive t0 :: rest)).2 + refusals (run c b (.arrive t0 :: rest)).2 + 1) ≤
      2 * c.recoveryDur * (passes (run c b (.arrive t0 :: rest)).2 + 1) := by
  obtain ⟨hstate, _, hstart, hdur, hallowed, htotal, _, _, _⟩ := period c b t0 rest hs hdue hsorted hrec
  have hn := ((refused_iff c _ t' hstate).mp hobs).2
  rw [hstart, hdur, htotal, hallowed] at hn
  exact Nat.le_of_not_lt hn

/-- … and a request is passed only strictly below the ramp -/
theorem C12_pass_only_below (c : Cfg) (b : Brk) (t0 : Nat) (rest : List Ev) (t' : Nat)
    (hs : b.state = .tripped) (hdue : b.until_ ≤ t0) (hsorted : Sorted (.arrive t0 :: rest))
    (hrec : AllRecovering c b (.arrive t0 :: rest)) (hin : t' ≤ t0 + c.recoveryDur)
    (hobs : (step c (run c b (.arrive t0 :: rest)).1 (.arrive t')).2 = .pass) :
    2 * c.recoveryDur * (passes (run c b (.arrive t0 :: rest)).2 + 1) <
      (t' - t0) * (passes (run c b (.arrive t0 :: rest)).2 + refusals (run c b (.arrive t0 :: rest)).2 + 1) := by
  obtain ⟨hstate, huntil, hstart, hdur, hallowed, htotal, _, _, _⟩ := period c b t0 rest hs hdue hsorted hrec
  -- the request was not refused, so, being inside the period, it passed the test of `allowRequest`
  have hnot : ¬ _ := fun h => by rw [(refused_iff c _ t' hstate).mpr h] at hobs; cases hobs
  have htest := Decidable.not_not.mp fun hn => hnot ⟨by rw [huntil]; exact hin, hn⟩
  rw [hstart, hdur, htotal, hallowed] at htest
  exact htest

/-- **back to standby**: if the trip condition has not matched again (the breaker is still recovering),
    the first request after the recovery period (`t' > t0 + recoveryDuration`) is passed and finds the
    breaker in standby, with exactly one on-standby effect launched; a request up to the end of the period
    does not end it -/
theorem C12_first_after_is_standby (c : Cfg) (b : Brk) (t0 : Nat) (rest : List Ev) (t' : Nat)
    (hs : b.state = .tripped) (hdue : b.until_ ≤ t0) (hsorted : Sorted (.arrive t0 :: rest))
    (hrec : AllRecovering c b (.arrive t0 :: rest)) :
    (t' > t0 + c.recoveryDur →
      (step c (run c b (.arrive t0 :: rest)).1 (.arrive t')).2 = .pass ∧
      (step c (run c b (.arrive t0 :: rest)).1 (.arrive t')).1.state = .standby ∧
      (step c (run c b (.arrive t0 :: rest)).1 (.arrive t')).1.standbys = b.standbys + 1 ∧
      (step c (run c b (.arrive t0 :: rest)).1 (.arrive t')).1.tripped = b.tripped) ∧
    (t' ≤ t0 + c.recoveryDur →
      (step c (run c b (.arrive t0 :: rest)).1 (.arrive t')).1.state = .recovering) := by
  obtain ⟨hstate, huntil, _, _, _, _, htripped, hstandbys, _⟩ := period c b t0 rest hs hdue hsorted hrec
  constructor
  · intro hgt
    rw [step_arrive, arrive_recovering_after c _ t' hstate (by rw [huntil]; exact hgt)]
    exact ⟨rfl, rfl, by rw [← hstandbys], by rw [← htripped]⟩
  · intro hle
    rw [step_arrive, arrive_recovering_within c _ t' hstate (by rw [huntil]; exact hle)]
    exact hstate

/-- **re-trip**: if during the recovery a `check` (the `checkAndSet` of some completing request, whatever
    other requests recorded or did since that request's own `record`) falls due for evaluation
    (`t' > lastCheck`) and the condition — in its standard reading over everything recorded so far, see
    `C18` — is true, the breaker trips again (`done true`, one more on-tripped effect, deadline `t' + fallbackDuration`) and
    shields the backend anew: every request before the new deadline gets the fallback.  If the condition
    is false the breaker keeps recovering. -/
theorem C12_retrip (c : Cfg) (b : Brk) (t0 : Nat) (rest : List Ev) (t' : Nat) (orc : Oracle)
    (hwt : c.cond.wellTyped = true)
    (hs : b.state = .tripped) (hdue : b.until_ ≤ t0) (hsorted : Sorted (.arrive t0 :: rest))
    (hrec : AllRecovering c b (.arrive t0 :: rest))
    (hcheck : t' > (run c b (.arrive t0 :: rest)).1.lastCheck) :
    (Denote (envOf (reader t' orc) (run c b (.arrive t0 :: rest)).1.met) c.cond →
      (step c (run c b (.arrive t0 :: rest)).1 (.check t' orc)).2 = .done true ∧
      (step c (run c b (.arrive t0 :: rest)).1 (.check t' orc)).1.state = .tripped ∧
      (step c (run c b (.arrive t0 :: rest)).1 (.check t' orc)).1.until_ = t' + c.fallbackDur ∧
      (step c (run c b (.arrive t0 :: rest)).1 (.check t' orc)).1.tripped = b.tripped + 1 ∧
      ∀ mid, (∀ e ∈ mid, e.time < t' + c.fallbackDur) →
        (run c (step c (run c b (.arrive t0 :: rest)).1 (.check t' orc)).1 mid).2 = mid.map shieldObs) ∧
    (¬ Denote (envOf (reader t' orc) (run c b (.arrive t0 :: rest)).1.met) c.cond →
      (step c (run c b (.arrive t0 :: rest)).1 (.check t' orc)).2 = .done false ∧
      (step c (run c b (.arrive t0 :: rest)).1 (.check t' orc)).1.state = .recovering) := by
  obtain ⟨hstate, _, _, _, _, _, htripped, _, _⟩ := period c b t0 rest hs hdue hsorted hrec
  exact retrip_at c _ b.tripped t' orc hwt hstate htripped hcheck

/-- the same for a completion whose `record` and `check` run back to back (`complete`): if during the recovery a completion falls due for evaluation (`t' > lastCheck`) and the
    condition — in its standard reading over the metrics holding this response, see `C18` — is true, the
    breaker trips again (`done true`, one more on-tripped effect, deadline `t' + fallbackDuration`) and
    shields the backend anew: every request before the new deadline gets the fallback.  If the condition
    is false the breaker keeps recovering. -/
theorem C12_retrip_fused (c : Cfg) (b : Brk) (t0 : Nat) (rest : List Ev) (t' code : Nat) (orc : Oracle)
    (hwt : c.cond.wellTyped = true)
    (hs : b.state = .tripped) (hdue : b.until_ ≤ t0) (hsorted : Sorted (.arrive t0 :: rest))
    (hrec : AllRecovering c b (.arrive t0 :: rest))
    (hcheck : t' > (run c b (.arrive t0 :: rest)).1.lastCheck) :
    (Denote (envOf (reader t' orc) ((run c b (.arrive t0 :: rest)).1.met.record t' code)) c.cond →
      (step c (run c b (.arrive t0 :: rest)).1 (.complete t' code orc)).2 = .done true ∧
      (step c (run c b (.arrive t0 :: rest)).1 (.complete t' code orc)).1.state = .tripped ∧
      (step c (run c b (.arrive t0 :: rest)).1 (.complete t' code orc)).1.until_ = t' + c.fallbackDur ∧
      (step c (run c b (.arrive t0 :: rest)).1 (.complete t' code orc)).1.tripped = b.tripped + 1 ∧
      ∀ mid, (∀ e ∈ mid, e.time < t' + c.fallbackDur) →
        (run c (step c (run c b (.arrive t0 :: rest)).1 (.complete t' code orc)).1 mid).2 = mid.map shieldObs) ∧
    (¬ Denote (envOf (reader t' orc) ((run c b (.arrive t0 :: rest)).1.met.record t' code)) c.cond →
      (step c (run c b (.arrive t0 :: rest)).1 (.complete t' code orc)).2 = .done false ∧
      (step c (run c b (.arrive t0 :: rest)).1 (.complete t' code orc)).1.state = .recovering) := by
  obtain ⟨hstate, _, _, _, _, _, htripped, _, _⟩ := period c b t0 rest hs hdue hsorted hrec
  -- `complete` is `checkAndSet` on the breaker holding the recorded response
  exact retrip_at c { (run c b (.arrive t0 :: rest)).1 with met := (run c b (.arrive t0 :: rest)).1.met.record t' code }
    b.tripped t' orc hwt hstate htripped hcheck

/-! ### non-vacuity: a full cycle — trip, fallback period, ramp with refusals and passes, standby again -/
def T0 : Nat := RCnt.baseSinceZeroNs
def exCfg : Cfg := ⟨1000, 1024, 100, .cmp .gt .ner (.float 1 2)⟩
/-- the breaker tripped at `T0` (a 502 on the first completion) -/
def exB : Brk := (run exCfg Brk.init [.arrive T0, .complete T0 502 []]).1
def exRest : List Ev :=
  [.arrive (T0 + 1000 + 256), .arrive (T0 + 1000 + 512), .arrive (T0 + 1000 + 512), .arrive (T0 + 1000 + 768),
   .complete (T0 + 1000 + 800) 200 [], .arrive (T0 + 1000 + 1024)]

example : exB.state = .tripped ∧ exB.until_ = T0 + 1000 := by decide +kernel
/-- refused at the start and at 1/4 of the period; at 1/2 the fraction 1/3 is above 0.25; at 3/4 one of
    four passes (`1/4 < 0.375`), and at the very end of the period `2/6 < 0.5` -/
example : (run exCfg exB (.arrive (T0 + 1000) :: exRest)).2 =
    [.fallback, .fallback, .fallback, .fallback, .pass, .done false, .pass] := by decide +kernel
example : ∀ s ∈ states exCfg exB (.arrive (T0 + 1000) :: exRest), s.state = .recovering := by decide +kernel
example : Sorted (.arrive (T0 + 1000) :: exRest) := by unfold Sorted; decide +kernel
/-- the first request after the period is passed and the breaker is back in standby -/
example : (step exCfg (run exCfg exB (.arrive (T0 + 1000) :: exRest)).1 (.arrive (T0 + 1000 + 1025))).2 = .pass ∧
    (step exCfg (run exCfg exB (.arrive (T0 + 1000) :: exRest)).1 (.arrive (T0 + 1000 + 1025))).1.state = .standby := by
  decide +kernel
/-- a 504 during the recovery, due for evaluation, trips it again -/
example : (step exCfg (run exCfg exB [.arrive (T0 + 1000), .arrive (T0 + 1000 + 256)]).1
    (.complete (T0 + 1000 + 300) 504 [])).2 = .done true := by decide +kernel

end C12
