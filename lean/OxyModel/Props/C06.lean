import OxyModel.Proofs.Buffer.Loop
import OxyModel.Proofs.Buffer.Header

/-!
# C06 — Buffer hands the handler the exact request, identically on every attempt

Property theorems only (helper lemmas live in `OxyModel/Proofs/Buffer`).  The model is
`OxyModel/Model/Buffer.lean`: `Buf.serve cfg req script` = `Buffer.ServeHTTP` for one request, with
`script k` the behaviour of the protected handler on its `k`-th invocation; `(serve …).views[i]` is
what invocation `i+1` saw on entry plus the bytes it read from the body.

The request, its URL, its header map and the value slices are *references into a store* (`Buf.Heap`): `copyRequest`
allocates a new URL object, a new map and new backing arrays (`copyRequestH`), the handler's mutations are writes
through the references it was given (`handlerHeap`: `Set/Add/Del` re-point map entries, `h[k][0] = v` and
`URL.Path = …` write in place), and each retry copies again from `ServeHTTP`'s own request in the store as it then
is.  Sharing (same map, same slices, same URL object) is expressible — see `copyShared` at the end — so isolation
between attempts is a theorem (frame invariant `Pres`), not a consequence of the model being pure.

All theorems hold for every configuration (thresholds and maxima in any relation, any retry
expression), every request (any body length, declared or chunked framing, any header list) and every
handler script (how much each attempt reads, what it changes on its copy, how it answers).
-/
namespace C06
open Buf

/-- **C06 (exact body, true length, no chunked encoding)**: whatever invocation `i+1` exists, the bytes it
    reads are the request body from its first byte — all of it when it reads to EOF, else the first `n`
    bytes —, the `ContentLength` it sees is the body's true length and `TransferEncoding` is empty.
    This holds below and above the memory threshold and for both framings (`req.chunked`). -/
theorem C06_body_exact (cfg : Cfg) (req : Req) (script : Nat → Attempt) (i : Nat) (v : View)
    (h : (serve cfg req script).views[i]? = some v) :
    ((script (i + 1)).read = none → v.bodyRead = req.body) ∧
    (∀ n, (script (i + 1)).read = some n → v.bodyRead = req.body.take n) ∧
    v.req.contentLength = (req.body.length : Int) ∧ v.req.transferEncoding = [] := by
  have sv := serve_seen cfg req script i v h
  refine ⟨fun hr => ?_, fun n hr => ?_, ?_, ?_⟩
  · rw [sv.bodyRead, hr]; rfl
  · rw [sv.bodyRead, hr]; rfl
  · rw [sv.request]; rfl
  · rw [sv.request]; rfl

/-- **C06 (identical on every attempt, unaffected by earlier attempts)**: take any two handler scripts `s₁ s₂`
    (they may differ arbitrarily in what earlier attempts read from the shared body reader, wrote through the
    header-map / value-slice / URL pointers of their request copies — `Set`, `Add`, `Del`, in-place element
    overwrites, `URL.Path = …` — or answered) and any invocation `i+1` under `s₁` and `j+1` under `s₂` (in particular
    two attempts of the same exchange, `s₁ = s₂`): both see the same method, URL, headers, length and encoding —
    the client's — and, if they read the same amount, the same bytes.  Proof: the reader is rewound (`BodyInv`
    across `seek0`) and no write through an attempt's references reaches anything allocated before its copy was
    made (`stepHeap_pres`), so the next `copyRequest` reads the client's values again (`viewReq_eq_of_pres`). -/
theorem C06_attempts_identical (cfg : Cfg) (req : Req) (s₁ s₂ : Nat → Attempt) (i j : Nat) (v w : View)
    (hv : (serve cfg req s₁).views[i]? = some v) (hw : (serve cfg req s₂).views[j]? = some w) :
    v.req = w.req ∧ v.req.method = req.method ∧ v.req.url = req.url ∧
    v.req.header = Header.copyInto [] req.header ∧
    ((s₁ (i + 1)).read = (s₂ (j + 1)).read → v.bodyRead = w.bodyRead) := by
  have sv := serve_seen cfg req s₁ i v hv
  have sw := serve_seen cfg req s₂ j w hw
  refine ⟨by rw [sv.request, sw.request], by rw [sv.request]; rfl, by rw [sv.request]; rfl, by rw [sv.request]; rfl, ?_⟩
  intro hr; rw [sv.bodyRead, sw.bodyRead, hr]

/-- **C06 (headers are the request's)**: for a Go map (every key once) the copy every attempt receives equals the
    request's header map. -/
theorem C06_headers_exact (cfg : Cfg) (req : Req) (script : Nat → Attempt) (i : Nat) (v : View)
    (hwf : Header.WF req.header) (h : (serve cfg req script).views[i]? = some v) :
    v.req.header = req.header := by
  rw [(serve_seen cfg req script i v h).request]
  exact Header.copyInto_nil req.header hwf

/-! ## non-vacuity -/

/-- memory threshold 4, retry while the status is ≥ 500 and fewer than 3 attempts: a 10-byte chunked POST is
    spilled, attempt 1 reads 3 bytes, mutates its copy and fails, attempt 2 reads everything. -/
def exCfg : Cfg := { memReq := 4, retry := some (.and (.cmp .attempts .lt 3) (.cmp .responseCode .ge 500)) }
def exReq : Req := { method := "POST", url := "/p?x=1", header := [("X-A", ["1", "3"]), ("X-B", ["2"])],
                     chunked := true, body := [1, 2, 3, 4, 5, 6, 7, 8, 9, 10] }
def exScript : Nat → Attempt
  | 1 => { read := some 3, hdrOps := [.set "X-A" "9", .del "X-B"], setUrl := some "/mut", status := some 503 }
  | _ => { read := none, writes := [[7]] }

example : (serve exCfg exReq exScript).views.length = 2 := by decide +kernel
example : ((serve exCfg exReq exScript).views.map (·.bodyRead)) = [[1, 2, 3], [1, 2, 3, 4, 5, 6, 7, 8, 9, 10]] := by decide +kernel
example : ((serve exCfg exReq exScript).views.map (·.req.url)) = ["/p?x=1", "/p?x=1"] := by decide +kernel
example : ((serve exCfg exReq exScript).views.map (·.req.contentLength)) = [10, 10] := by decide +kernel
example : (serve exCfg exReq exScript).created = 1 ∧ (serve exCfg exReq exScript).removed = 1 := by decide +kernel
example : Header.WF exReq.header := by unfold Header.WF; decide +kernel

/-- in-place edits through the copy's references leave the next attempt's view untouched -/
def exScript2 : Nat → Attempt
  | 1 => { hdrOps := [HdrOp.set0 "X-A" "evil", HdrOp.setLast "X-A" "evil", HdrOp.add "X-B" "x"],
           setUrl := some "/mut", status := some 503 }
  | _ => {}

example : ((serve exCfg exReq exScript2).views.map (·.req.header)) = [exReq.header, exReq.header] := by decide +kernel

/-! ### the store can express sharing: with a `copyRequest` that shares, the same handler breaks the next attempt -/

/-- `o := *req` without `CopyURL` / `CopyHeaders`: the handler holds the request's own URL object and header map -/
def copyShared (h : Heap) (r : ReqRef) (size : Nat) : Heap × OutRef := (h, ⟨r.method, r.urlId, r.mapId, (size : Int), []⟩)

example :
    let h0 := (Heap.ofReq exReq).1
    let r := (Heap.ofReq exReq).2
    let a : Attempt := { hdrOps := [HdrOp.set0 "X-A" "evil"], setUrl := some "/mut" }
    let h1 := handlerHeap a (copyShared h0 r 10).1 (copyShared h0 r 10).2
    h1.readMap r.mapId = [("X-A", ["evil", "3"]), ("X-B", ["2"])] ∧ h1.urls r.urlId = "/mut" ∧
    -- whereas through the real copy the original is untouched
    (stepHeap r 10 a h0).readMap r.mapId = exReq.header ∧ (stepHeap r 10 a h0).urls r.urlId = "/p?x=1" := by decide +kernel

end C06
