import OxyModel.Proofs.CBreaker.Machine
import OxyModel.Proofs.CBreaker.Eval
import OxyModel.Proofs.Counter.History

/-! Composition of the breaker with the C17 counter invariant (`RCnt.Holds`): the metrics of the breaker
count exactly the responses recorded since the last trip whose one-second slot is among the last ten.
Every counter of `RTMetrics` counts the responses whose status code satisfies some test (`Counts`):
any code, 502/504, one particular code. -/
namespace CB
open CBExpr

theorem ccfg_good : RCnt.Good ccfg ccfg.off := RCnt.good_off ccfg (by decide) (by decide)

/-- 1970-01-01 plus one counter window: from here on `getBucket` indexes a real bucket -/
def tmin : Nat := RCnt.unixEpochNs + ccfg.n * ccfg.r

/-- a response `(time, code)` is in the metrics window at `now`: its slot is among the last ten -/
def inWin (now : Nat) (r : Nat × Nat) : Bool := decide (now / ccfg.r < r.1 / ccfg.r + ccfg.n)

/-- `Record` counts 502 and 504 as network errors -/
def isNE (code : Nat) : Bool := decide (code = 504 ∨ code = 502)

/-- responses of `recs` in the window at `now` whose code satisfies `P` -/
def winCount (now : Nat) (recs : List (Nat × Nat)) (P : Nat → Bool) : Int :=
  ((recs.filter (fun r => P r.2 && inWin now r)).length : Int)

theorem winCount_cons (now : Nat) (r : Nat × Nat) (recs : List (Nat × Nat)) (P : Nat → Bool) :
    winCount now (r :: recs) P = (if (P r.2 && inWin now r) = true then 1 else 0) + winCount now recs P := by
  unfold winCount
  rw [List.filter_cons]
  by_cases h : (P r.2 && inWin now r) = true
  · rw [if_pos h, if_pos h, List.length_cons, Int.natCast_add, Int.add_comm]
    rfl
  · rw [if_neg h, if_neg h, Int.zero_add]

theorem winCount_congr (now : Nat) {recs : List (Nat × Nat)} {P Q : Nat → Bool}
    (h : ∀ r ∈ recs, P r.2 = Q r.2) : winCount now recs P = winCount now recs Q := by
  unfold winCount
  rw [List.filter_congr (fun r hr => by rw [h r hr])]

theorem sum_winCount (now : Nat) (S : Finset Nat) : ∀ (recs : List (Nat × Nat)),
    ∑ k ∈ S, winCount now recs (fun c => decide (c = k)) = winCount now recs (fun c => decide (c ∈ S))
  | [] => Finset.sum_eq_zero (fun _ _ => rfl)
  | r :: recs => by
    simp only [winCount_cons, Finset.sum_add_distrib, sum_winCount now S recs]
    congr 1
    -- the response `r` is counted once, by the counter of its own code
    by_cases hw : inWin now r = true
    · simp only [hw, Bool.and_true, decide_eq_true_eq, Finset.sum_ite_eq]
    · simp only [Bool.eq_false_iff.mpr hw, Bool.and_false, Bool.false_eq_true, if_false, Finset.sum_const_zero]

/-- one increment of 1 per response -/
def ones (recs : List (Nat × Nat)) : RCnt.Log := recs.map (fun r => (r.1, (1 : Int)))

theorem sumIf_ones (now : Nat) (P : Nat → Bool) : ∀ (recs : List (Nat × Nat)),
    RCnt.sumIf (fun u => now / ccfg.r < u / ccfg.r + ccfg.n) (ones (recs.filter (fun r => P r.2))) =
      winCount now recs P
  | [] => rfl
  | r :: recs => by
    rw [winCount_cons, ← sumIf_ones now P recs, List.filter_cons]
    cases hP : P r.2
    · rw [if_neg Bool.false_ne_true, Bool.false_and, if_neg Bool.false_ne_true, Int.zero_add]
    · rw [if_pos rfl, Bool.true_and]
      simp only [inWin, decide_eq_true_eq]
      exact RCnt.sumIf_cons (fun u => now / ccfg.r < u / ccfg.r + ccfg.n) (r.1, 1) _

/-- the counter `s`, last touched at or before `T`, has counted one for every response of `recs`
    (newest first) whose status code satisfies `P` -/
def Counts (s : RCnt.St) (T : Nat) (recs : List (Nat × Nat)) (P : Nat → Bool) : Prop :=
  RCnt.Holds ccfg s T (ones (recs.filter (fun r => P r.2)))

theorem Counts.fresh (T : Nat) {recs : List (Nat × Nat)} {P : Nat → Bool} (h : ∀ r ∈ recs, P r.2 = false) :
    Counts (RCnt.St.init ccfg) T recs P := by
  unfold Counts
  rw [List.filter_eq_nil_iff.mpr (fun r hr => by rw [h r hr]; nofun)]
  exact RCnt.Holds.init _ T

theorem Counts.mono {s : RCnt.St} {T T' : Nat} {recs : List (Nat × Nat)} {P : Nat → Bool}
    (h : Counts s T recs P) (hT : T ≤ T') : Counts s T' recs P :=
  RCnt.Holds.mono h hT

theorem Counts.ceq {s s' : RCnt.St} {T now : Nat} {recs : List (Nat × Nat)} {P : Nat → Bool}
    (h : Counts s T recs P) (hT : T ≤ now) (he : RCnt.CEq ccfg now s s') : Counts s' now recs P := by
  rcases he with rfl | rfl
  · exact h.mono hT
  · exact RCnt.Holds.cleanup ccfg_good h hT

theorem Counts.reset {s : RCnt.St} {T : Nat} {recs : List (Nat × Nat)} {P Q : Nat → Bool}
    (h : Counts s T recs P) (now : Nat) : Counts (RCnt.reset s) now [] Q :=
  RCnt.Holds.reset h now

/-- a response the counter is incremented for -/
theorem Counts.hit {s : RCnt.St} {T now : Nat} {recs : List (Nat × Nat)} {P : Nat → Bool}
    (h : Counts s T recs P) (hT : T ≤ now) (hmin : tmin ≤ now) {code : Nat} (hP : P code = true) :
    Counts (RCnt.inc ccfg s now 1) now ((now, code) :: recs) P := by
  unfold Counts
  rw [List.filter_cons_of_pos (p := fun r : Nat × Nat => P r.2) (a := (now, code)) hP]
  exact RCnt.Holds.inc ccfg_good h hT hmin 1

/-- a response the counter is not touched for -/
theorem Counts.miss {s : RCnt.St} {T now : Nat} {recs : List (Nat × Nat)} {P : Nat → Bool}
    (h : Counts s T recs P) (hT : T ≤ now) {code : Nat} (hP : P code = false) :
    Counts s now ((now, code) :: recs) P := by
  unfold Counts
  rw [List.filter_cons_of_neg (p := fun r : Nat × Nat => P r.2) (a := (now, code)) (by rw [hP]; nofun)]
  exact h.mono hT

theorem Counts.read {s : RCnt.St} {T now : Nat} {recs : List (Nat × Nat)} {P : Nat → Bool}
    (h : Counts s T recs P) (hT : T ≤ now) (hmin : tmin ≤ now) :
    (RCnt.count ccfg s now).2 = winCount now recs P := by
  rw [RCnt.Holds.count ccfg_good h hT hmin]
  exact sumIf_ones now P recs

/-- the metrics have recorded exactly `recs` (newest first) since they were last reset -/
structure MInv (m : Metrics) (T : Nat) (recs : List (Nat × Nat)) : Prop where
  total : Counts m.total T recs (fun _ => true)
  ne : Counts m.netErrors T recs isNE
  codes : ∀ e ∈ m.codes, Counts e.2 T recs (fun code => decide (code = e.1))
  nodup : (m.codes.map Prod.fst).Nodup
  cover : ∀ r ∈ recs, r.2 ∈ m.codes.map Prod.fst

theorem minv_init (T : Nat) : MInv Metrics.init T [] :=
  ⟨Counts.fresh T nofun, Counts.fresh T nofun, nofun, List.nodup_nil, nofun⟩

theorem minv_reset {m : Metrics} {T : Nat} {recs : List (Nat × Nat)} (h : MInv m T recs) (now : Nat) :
    MInv m.reset now [] :=
  ⟨h.total.reset now, h.ne.reset now, nofun, List.nodup_nil, nofun⟩

theorem codesEq_keys {now : Nat} {l l' : List (Nat × RCnt.St)} (h : CodesEq now l l') :
    l'.map Prod.fst = l.map Prod.fst := by
  induction h with
  | nil => rfl
  | cons _ _ ih => rw [List.map_cons, List.map_cons, ih]

theorem codesEq_counts {now T : Nat} (hT : T ≤ now) {recs : List (Nat × Nat)} {l l' : List (Nat × RCnt.St)}
    (h : CodesEq now l l') (hi : ∀ e ∈ l, Counts e.2 T recs (fun code => decide (code = e.1))) :
    ∀ e ∈ l', Counts e.2 now recs (fun code => decide (code = e.1)) := by
  induction h with
  | nil => nofun
  | cons hs _ ih =>
    intro e he
    rcases List.mem_cons.mp he with rfl | he
    · exact (hi _ List.mem_cons_self).ceq hT hs
    · exact ih (fun e he => hi e (List.mem_cons_of_mem _ he)) e he

theorem minv_meq {m m' : Metrics} {T now : Nat} {recs : List (Nat × Nat)} (h : MInv m T recs)
    (hT : T ≤ now) (he : MEq now m m') : MInv m' now recs := by
  obtain ⟨e1, e2, e3⟩ := he
  refine ⟨h.total.ceq hT e1, h.ne.ceq hT e2, codesEq_counts hT e3 h.codes, ?_, ?_⟩
  · rw [codesEq_keys e3]; exact h.nodup
  · rw [codesEq_keys e3]; exact h.cover

theorem MInv.mono {m : Metrics} {T T' : Nat} {recs : List (Nat × Nat)} (h : MInv m T recs) (hT : T ≤ T') :
    MInv m T' recs :=
  minv_meq h hT (MEq.refl _ _)

theorem recordCode_append (now code : Nat) : ∀ (l1 l2 : List (Nat × RCnt.St)), code ∉ l1.map Prod.fst →
    recordCode now code (l1 ++ l2) = l1 ++ recordCode now code l2
  | [], _, _ => rfl
  | (k, s) :: l1, l2, h => by
    have hk : k ≠ code := fun e => h (e ▸ List.mem_cons_self)
    rw [List.cons_append, recordCode, if_neg hk,
      recordCode_append now code l1 l2 (fun hm => h (List.mem_cons_of_mem _ hm)), List.cons_append]

theorem minv_record {m : Metrics} {T now : Nat} {recs : List (Nat × Nat)} (h : MInv m T recs)
    (hT : T ≤ now) (hmin : tmin ≤ now) (code : Nat) :
    MInv (m.record now code) now ((now, code) :: recs) := by
  have hne : Counts (m.record now code).netErrors now ((now, code) :: recs) isNE := by
    show Counts (if code = 504 ∨ code = 502 then _ else _) now _ _
    split
    next hc => exact h.ne.hit hT hmin (decide_eq_true hc)
    next hc => exact h.ne.miss hT (decide_eq_false hc)
  -- a counter of `l` that `recordStatusCode` leaves alone because `code` is no key of `l`
  have other : ∀ l : List (Nat × RCnt.St), (∀ e ∈ l, e ∈ m.codes) → code ∉ l.map Prod.fst →
      ∀ e ∈ l, Counts e.2 now ((now, code) :: recs) (fun x => decide (x = e.1)) := fun l hl hc e he =>
    (h.codes e (hl e he)).miss hT (decide_eq_false fun e' => hc (e' ▸ List.mem_map_of_mem he))
  by_cases hm : code ∈ m.codes.map Prod.fst
  · -- the counter of `code` exists: `codes = l1 ++ (code, s) :: l2`, and the keys being distinct, it is the only one
    obtain ⟨⟨k, s⟩, he, rfl⟩ := List.mem_map.mp hm
    obtain ⟨l1, l2, hl⟩ := List.append_of_mem he
    have hnd := h.nodup
    rw [hl, List.map_append, List.map_cons] at hnd
    have h1 : k ∉ l1.map Prod.fst := fun hk => (List.nodup_append.mp hnd).2.2 k hk k List.mem_cons_self rfl
    have h2 : k ∉ l2.map Prod.fst := (List.nodup_cons.mp (List.nodup_append.mp hnd).2.1).1
    have hrec : (m.record now k).codes = l1 ++ (k, RCnt.inc ccfg s now 1) :: l2 := by
      show recordCode now k m.codes = _
      rw [hl, recordCode_append now k l1 _ h1, recordCode, if_pos rfl]
    have hkeys : (m.record now k).codes.map Prod.fst = m.codes.map Prod.fst := by
      rw [hrec, hl, List.map_append, List.map_append, List.map_cons, List.map_cons]
    refine ⟨h.total.hit hT hmin rfl, hne, fun e he' => ?_, hkeys ▸ h.nodup, fun r hr => hkeys ▸ ?_⟩
    · rw [hrec] at he'
      rcases List.mem_append.mp he' with he' | he'
      · exact other l1 (fun e he => hl ▸ List.mem_append_left _ he) h1 e he'
      · rcases List.mem_cons.mp he' with rfl | he'
        · exact (h.codes (k, s) he).hit hT hmin (decide_eq_true rfl)
        · exact other l2 (fun e he => hl ▸ List.mem_append_right _ (List.mem_cons_of_mem _ he)) h2 e he'
    · rcases List.mem_cons.mp hr with rfl | hr
      · exact hm
      · exact h.cover r hr
  · -- no response had that code yet: a fresh counter is appended
    have hrec : (m.record now code).codes = m.codes ++ [(code, RCnt.inc ccfg (RCnt.St.init ccfg) now 1)] := by
      have := recordCode_append now code m.codes [] hm
      rwa [List.append_nil] at this
    refine ⟨h.total.hit hT hmin rfl, hne, fun e he' => ?_, ?_, fun r hr => ?_⟩
    · rw [hrec] at he'
      rcases List.mem_append.mp he' with he' | he'
      · exact other m.codes (fun _ he => he) hm e he'
      · obtain rfl := List.mem_singleton.mp he'
        have hnone : ∀ r ∈ recs, decide (r.2 = code) = false := fun r hr =>
          decide_eq_false fun e => hm (e ▸ h.cover r hr)
        exact (Counts.fresh T hnone).hit hT hmin (decide_eq_true rfl)
    · rw [hrec, List.map_append]
      exact List.nodup_append.mpr ⟨h.nodup, List.nodup_singleton _, fun a ha b hb e =>
        hm ((List.mem_singleton.mp hb : b = code) ▸ e ▸ ha)⟩
    · rw [hrec, List.map_append]
      rcases List.mem_cons.mp hr with rfl | hr
      · exact List.mem_append_right _ (List.mem_singleton.mpr rfl)
      · exact List.mem_append_left _ (h.cover r hr)

/-- `ResponseCodeRatio`'s two sums are window counts of the code ranges -/
theorem minv_codeSum {m : Metrics} {T now : Nat} {recs : List (Nat × Nat)} (h : MInv m T recs)
    (hT : T ≤ now) (hmin : tmin ≤ now) (lo hi : Nat) :
    codeSum now lo hi m.codes = winCount now recs (fun k => decide (k < hi ∧ k ≥ lo)) := by
  -- the counters in range, by key; the keys are distinct, so this is a sum over the set of keys in range
  have hsum : codeSum now lo hi m.codes =
      (((m.codes.map Prod.fst).filter (fun k => decide (k < hi ∧ k ≥ lo))).map
        (fun k => winCount now recs (fun c => decide (c = k)))).sum := by
    unfold codeSum
    rw [List.filter_map, List.map_map]
    exact congrArg List.sum
      (List.map_congr_left fun e he => (h.codes e (List.mem_of_mem_filter he)).read hT hmin)
  rw [hsum, ← List.sum_toFinset _ (h.nodup.filter _), sum_winCount]
  -- every recorded code has a counter: being a key in range is being in range
  exact winCount_congr now fun r hr => by
    simp only [List.mem_toFinset, List.mem_filter, h.cover r hr, true_and, decide_eq_true_eq]

theorem check_minv (c : Cfg) (b : Brk) (now : Nat) (orc : Oracle) {T : Nat} {recs : List (Nat × Nat)}
    (h : MInv b.met T recs) (hT : T ≤ now) :
    MInv (checkAndSet c b now orc).1.met now (if (checkAndSet c b now orc).2 = true then [] else recs) := by
  -- evaluating the condition only reads the metrics, and reading only cleans counters up
  have hev := minv_meq h hT (eval_preserves (reader now orc) (MEq now b.met) (fun f _ h => (call_meq orc f h).2)
    c.cond b.met (MEq.refl _ _))
  rcases check_cases c b now orc with ⟨_, h'⟩ | ⟨_, _, h'⟩ | ⟨_, _, _, h'⟩ | ⟨_, _, _, h'⟩ <;> rw [h']
  · exact h.mono hT
  · exact h.mono hT
  · exact minv_reset hev now
  · exact hev

/-- the responses recorded since the last trip after one more event -/
def recsStep (c : Cfg) (b : Brk) (recs : List (Nat × Nat)) : Ev → List (Nat × Nat)
  | .arrive _ => recs
  | .record t code => (t, code) :: recs
  | .check t orc => if (checkAndSet c b t orc).2 = true then [] else recs
  | .complete t code orc => if (complete c b t code orc).2 = true then [] else (t, code) :: recs

/-- the responses recorded since the last trip (newest first) after a trace, given those before it:
    `recsStep` event by event (`recsAfter_cons`) -/
def recsAfter (c : Cfg) : Brk → List (Nat × Nat) → List Ev → List (Nat × Nat)
  | _, recs, [] => recs
  | b, recs, .arrive t :: es => recsAfter c (step c b (.arrive t)).1 recs es
  | b, recs, .record t code :: es => recsAfter c (step c b (.record t code)).1 ((t, code) :: recs) es
  | b, recs, .check t orc :: es =>
    recsAfter c (step c b (.check t orc)).1 (if (checkAndSet c b t orc).2 = true then [] else recs) es
  | b, recs, .complete t code orc :: es =>
    recsAfter c (step c b (.complete t code orc)).1
      (if (complete c b t code orc).2 = true then [] else (t, code) :: recs) es

theorem recsAfter_cons (c : Cfg) (b : Brk) (recs : List (Nat × Nat)) (e : Ev) (es : List Ev) :
    recsAfter c b recs (e :: es) = recsAfter c (step c b e).1 (recsStep c b recs e) es := by
  cases e <;> rfl

theorem step_minv (c : Cfg) (b : Brk) (e : Ev) {T : Nat} {recs : List (Nat × Nat)} (h : MInv b.met T recs)
    (hT : T ≤ e.time) (hmin : tmin ≤ e.time) : MInv (step c b e).1.met e.time (recsStep c b recs e) := by
  cases e with
  | arrive t =>
    show MInv (arrive c b t).2.met t recs
    rw [(arrive_frame c b t).1]
    exact h.mono hT
  | record t code => exact minv_record h hT hmin code
  | check t orc => exact check_minv c b t orc h hT
  | complete t code orc =>
    exact check_minv c { b with met := b.met.record t code } t orc (minv_record h hT hmin code) (Nat.le_refl _)

/-- **the metrics are the responses since the last trip**, at every instant from the last event on -/
theorem run_minv (c : Cfg) : ∀ (es : List Ev) (b : Brk) (T : Nat) (recs : List (Nat × Nat)),
    MInv b.met T recs → es.Pairwise (fun x y => x.time ≤ y.time) → (∀ e ∈ es, T ≤ e.time) →
    (∀ e ∈ es, tmin ≤ e.time) →
    ∀ now, T ≤ now → (∀ e ∈ es, e.time ≤ now) → MInv (run c b es).1.met now (recsAfter c b recs es) := by
  intro es
  induction es with
  | nil => intro b T recs h _ _ _ now hT _; exact h.mono hT
  | cons e es ih =>
    intro b T recs h hsorted hge hmin now _ hnow
    rw [List.pairwise_cons] at hsorted
    rw [run_cons, recsAfter_cons]
    have hstep := step_minv c b e h (hge e List.mem_cons_self) (hmin e List.mem_cons_self)
    exact ih _ e.time _ hstep hsorted.2 hsorted.1 (fun e' he => hmin e' (List.mem_cons_of_mem _ he)) now
      (hnow e List.mem_cons_self) (fun e' he => hnow e' (List.mem_cons_of_mem _ he))

/-- the metrics of a fresh breaker after a trace, seen from a later instant -/
theorem minv_after (c : Cfg) (es : List Ev) (now : Nat)
    (hsorted : (es.map Ev.time ++ [now]).Pairwise (· ≤ ·)) (hmin : ∀ e ∈ es, tmin ≤ e.time) :
    MInv (run c Brk.init es).1.met now (recsAfter c Brk.init [] es) :=
  run_minv c es Brk.init 0 [] (minv_init 0) (List.pairwise_map.mp (List.pairwise_append.mp hsorted).1)
    (fun _ _ => Nat.zero_le _) hmin now (Nat.zero_le _)
    (fun _ he => (List.pairwise_append.mp hsorted).2.2 _ (List.mem_map_of_mem he) now List.mem_cons_self)

end CB
