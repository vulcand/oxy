import OxyModel.Proofs.CBreaker.Machine

/-! The recovery period as a segment of a trace: the ratio controller's counters are the observed
passes / refusals, and the ramp bound is an invariant. -/
namespace CB
open CBExpr

/-- `allowed / (allowed+denied) ≤ 0.5 · elapsed / dur`, cross-multiplied -/
def RC.Ramp (r : RC) (now : Nat) : Prop :=
  2 * r.dur * r.allowed ≤ (now - r.start) * (r.allowed + r.denied)

theorem ramp_mono (r : RC) {t t' : Nat} (h : t ≤ t') (hr : r.Ramp t) : r.Ramp t' :=
  Nat.le_trans hr (Nat.mul_le_mul_right _ (Nat.sub_le_sub_right h _))

/-- what `allowRequest` does to the controller: it counts the answer, start and duration stay -/
theorem allow_fields (r : RC) (now : Nat) :
    (r.allow now).2.start = r.start ∧ (r.allow now).2.dur = r.dur ∧
    (r.allow now).2.allowed = r.allowed + (if (r.allow now).1 then 1 else 0) ∧
    (r.allow now).2.denied = r.denied + (if (r.allow now).1 then 0 else 1) := by
  unfold RC.allow
  split
  · exact ⟨rfl, rfl, rfl, rfl⟩
  · exact ⟨rfl, rfl, rfl, rfl⟩

theorem allow_true_iff (r : RC) (now : Nat) :
    (r.allow now).1 = true ↔ 2 * r.dur * (r.allowed + 1) < (now - r.start) * (r.allowed + r.denied + 1) := by
  unfold RC.allow
  split
  · simp [*]
  · simp [*]

/-- both branches of `allowRequest` keep the ramp bound: a pass because of the test it passed, a refusal
    because it only adds to the denominator -/
theorem allow_ramp (r : RC) (now : Nat) (hr : r.Ramp now) : (r.allow now).2.Ramp now := by
  unfold RC.allow
  split
  next h =>
    show 2 * r.dur * (r.allowed + 1) ≤ (now - r.start) * (r.allowed + 1 + r.denied)
    rw [Nat.add_right_comm]
    exact Nat.le_of_lt h
  next =>
    exact Nat.le_trans hr (Nat.mul_le_mul_left _ (Nat.le_succ _))

/-- requests handed to the protected handler / answered by the fallback, among some observations -/
def passes (os : List Obs) : Nat := os.count .pass
def refusals (os : List Obs) : Nat := os.count .fallback

theorem passes_cons (o : Obs) (os : List Obs) : passes (o :: os) = (if o = .pass then 1 else 0) + passes os := by
  unfold passes
  rw [List.count_cons, Nat.add_comm]
  simp only [beq_iff_eq]

theorem refusals_cons (o : Obs) (os : List Obs) :
    refusals (o :: os) = (if o = .fallback then 1 else 0) + refusals os := by
  unfold refusals
  rw [List.count_cons, Nat.add_comm]
  simp only [beq_iff_eq]

theorem passes_append (xs ys : List Obs) : passes (xs ++ ys) = passes xs + passes ys := by
  unfold passes; exact List.count_append

theorem refusals_append (xs ys : List Obs) : refusals (xs ++ ys) = refusals xs + refusals ys := by
  unfold refusals; exact List.count_append

/-- `b'` is the recovering breaker `b` after one event at `t` that showed `o` and left it recovering -/
structure RampStep (b b' : Brk) (o : Obs) (t : Nat) : Prop where
  until_ : b'.until_ = b.until_
  start : b'.rc.start = b.rc.start
  dur : b'.rc.dur = b.rc.dur
  tripped : b'.tripped = b.tripped
  standbys : b'.standbys = b.standbys
  lastCheck : b'.lastCheck ≥ b.lastCheck
  allowed : b'.rc.allowed = b.rc.allowed + (if o = .pass then 1 else 0)
  denied : b'.rc.denied = b.rc.denied + (if o = .fallback then 1 else 0)
  ramp : ∀ t0, t0 ≤ t → b.rc.Ramp t0 → b'.rc.Ramp t

theorem step_recovering (c : Cfg) (b : Brk) (e : Ev) (h : b.state = .recovering)
    (h' : (step c b e).1.state = .recovering) : RampStep b (step c b e).1 (step c b e).2 e.time := by
  rcases step_cases c b e with ⟨t, rfl⟩ | ⟨_, f⟩ | ⟨harr, ho, q⟩
  · have hle : t ≤ b.until_ := Nat.le_of_not_lt fun hgt => by
      rw [step_arrive, arrive_recovering_after c b t h hgt] at h'; cases h'
    obtain ⟨fstart, fdur, fallowed, fdenied⟩ := allow_fields b.rc t
    rw [step_arrive, arrive_recovering_within c b t h hle]
    refine ⟨rfl, fstart, fdur, rfl, rfl, Nat.le_refl _, ?_, ?_, fun t0 ht0 hr => allow_ramp _ _ (ramp_mono _ ht0 hr)⟩
    · show (b.rc.allow t).2.allowed = _
      rw [fallowed]; cases (b.rc.allow t).1 <;> rfl
    · show (b.rc.allow t).2.denied = _
      rw [fdenied]; cases (b.rc.allow t).1 <;> rfl
  · rw [f.state] at h'; cases h'
  · obtain ⟨hp, hf, _⟩ := shieldObs_quiet harr
    rw [ho]
    exact ⟨q.until_, by rw [q.rc], by rw [q.rc], q.tripped, q.standbys, q.lastCheck, by rw [q.rc, if_neg hp]; rfl,
      by rw [q.rc, if_neg hf]; rfl, fun t0 ht0 hr => q.rc ▸ ramp_mono _ ht0 hr⟩

theorem refused_iff (c : Cfg) (b : Brk) (t : Nat) (h : b.state = .recovering) :
    (step c b (.arrive t)).2 = .fallback ↔
      (t ≤ b.until_ ∧
        ¬ 2 * b.rc.dur * (b.rc.allowed + 1) < (t - b.rc.start) * (b.rc.allowed + b.rc.denied + 1)) := by
  by_cases hgt : t > b.until_
  · rw [step_arrive, arrive_recovering_after c b t h hgt]
    exact ⟨nofun, fun h' => absurd hgt (Nat.not_lt.mpr h'.1)⟩
  · have hle := Nat.le_of_not_lt hgt
    rw [step_arrive, arrive_recovering_within c b t h hle, ← allow_true_iff]
    cases (b.rc.allow t).1
    · exact ⟨fun _ => ⟨hle, nofun⟩, fun _ => rfl⟩
    · exact ⟨nofun, fun h' => absurd rfl h'.2⟩

/-- every state along the trace is `recovering` -/
def AllRecovering (c : Cfg) (b : Brk) (es : List Ev) : Prop :=
  ∀ s ∈ states c b es, s.state = .recovering

theorem allRecovering_final (c : Cfg) : ∀ (es : List Ev) (b : Brk), b.state = .recovering →
    AllRecovering c b es → (run c b es).1.state = .recovering := by
  intro es
  induction es with
  | nil => intro b h _; exact h
  | cons e es ih =>
    intro b _ ha
    rw [run_cons]
    exact ih _ (ha _ List.mem_cons_self) (fun s hs => ha s (List.mem_cons_of_mem _ hs))

/-- the segment invariant: while the breaker stays recovering, deadline, ramp start and duration are
    fixed, the controller's counters grow by exactly the observed passes and refusals, no side effect is
    launched, and the ramp bound holds at every instant from the last event on -/
theorem segment (c : Cfg) : ∀ (es : List Ev) (b : Brk) (t1 : Nat), b.state = .recovering →
    AllRecovering c b es → es.Pairwise (fun x y => x.time ≤ y.time) → (∀ e ∈ es, t1 ≤ e.time) →
    b.rc.Ramp t1 →
    (run c b es).1.until_ = b.until_ ∧ (run c b es).1.rc.start = b.rc.start ∧
    (run c b es).1.rc.dur = b.rc.dur ∧ (run c b es).1.tripped = b.tripped ∧
    (run c b es).1.standbys = b.standbys ∧ (run c b es).1.lastCheck ≥ b.lastCheck ∧
    (run c b es).1.rc.allowed = b.rc.allowed + passes (run c b es).2 ∧
    (run c b es).1.rc.denied = b.rc.denied + refusals (run c b es).2 ∧
    (∀ t, t1 ≤ t → (∀ e ∈ es, e.time ≤ t) → (run c b es).1.rc.Ramp t) := by
  intro es
  induction es with
  | nil =>
    intro b t1 _ _ _ _ hr
    exact ⟨rfl, rfl, rfl, rfl, rfl, Nat.le_refl _, rfl, rfl, fun t ht _ => ramp_mono _ ht hr⟩
  | cons e es ih =>
    intro b t1 hs ha hp hge hr
    have h1 : (step c b e).1.state = .recovering := ha _ List.mem_cons_self
    have st := step_recovering c b e hs h1
    have hp' := List.pairwise_cons.mp hp
    obtain ⟨iuntil, istart, idur, itripped, istandbys, ilastCheck, iallowed, idenied, iramp⟩ :=
      ih (step c b e).1 e.time h1 (fun s hs' => ha s (List.mem_cons_of_mem _ hs')) hp'.2
        (fun e' he' => hp'.1 e' he') (st.ramp t1 (hge e List.mem_cons_self) hr)
    rw [run_cons, passes_cons, refusals_cons]
    exact ⟨iuntil.trans st.until_, istart.trans st.start, idur.trans st.dur, itripped.trans st.tripped,
      istandbys.trans st.standbys, Nat.le_trans st.lastCheck ilastCheck,
      by rw [iallowed, st.allowed, Nat.add_assoc], by rw [idenied, st.denied, Nat.add_assoc],
      fun t _ hall => iramp t (hall e List.mem_cons_self) (fun e' he' => hall e' (List.mem_cons_of_mem _ he'))⟩

end CB
