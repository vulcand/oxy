import OxyModel.Proofs.CBreaker.Machine
import OxyModel.Proofs.CBreaker.Metrics
import Mathlib.Algebra.Order.Field.Basic
import Mathlib.Data.Rat.Cast.Order

/-! The evaluator of `Model/CBExpr.lean` (the combinators of `predicates.go`, threading the metrics
through every read, comparing integer pairs by cross-multiplication) against an independently written
denotational semantics: rational numbers, the order of `ℚ`/`ℤ`, `∧`, `∨`. -/
namespace CBExpr

/-- the metric values an expression talks about -/
structure Env where
  ner : ℚ
  rcr : Nat → Nat → Nat → Nat → ℚ
  lat : Lit → ℤ

def Lit.toQ : Lit → ℚ
  | .int n => (n : ℚ)
  | .float p q => (p : ℚ) / (q : ℚ)

def rel {α : Type} [LT α] [LE α] : Cmp → α → α → Prop
  | .eq, x, y => x = y
  | .neq, x, y => x ≠ y
  | .lt, x, y => x < y
  | .le, x, y => x ≤ y
  | .gt, x, y => x > y
  | .ge, x, y => x ≥ y

/-- ordinary Boolean / ordering semantics of a condition over given metric values -/
def Denote (env : Env) : Expr → Prop
  | .cmp op .ner v => rel op env.ner v.toQ
  | .cmp op (.rcr a b c d) v => rel op (env.rcr a.nat b.nat c.nat d.nat) v.toQ
  | .cmp op (.lat q) v => rel op (env.lat q) (v.nat : ℤ)
  | .and a b => Denote env a ∧ Denote env b
  | .or a b => Denote env a ∨ Denote env b
  | .bad => False

def Val.toQ : Val → ℚ
  | .int i => (i : ℚ)
  | .ratio a b => (a : ℚ) / (b : ℚ)

/-- what the ratio mappers return when the divisor counts nothing -/
theorem Val.toQ_zero : (Val.ratio 0 1).toQ = 0 := by simp [Val.toQ]

def Val.toZ : Val → ℤ
  | .int i => i
  | .ratio _ _ => 0

/-- the metric values a reader reports in state `s` -/
def envOf {σ : Type} (rd : Reader σ) (s : σ) : Env where
  ner := (rd.ner s).2.toQ
  rcr := fun a b c d => (rd.rcr a b c d s).2.toQ
  lat := fun q => (rd.lat q s).2.toZ

theorem div_lt_div_cross {a b c d : ℚ} (hb : b ≠ 0) (hd : 0 < d) :
    (a / b < c / d ↔ if 0 < b then a * d < c * b else c * b < a * d) ∧
    (c / d < a / b ↔ if 0 < b then c * b < a * d else a * d < c * b) := by
  rcases lt_or_gt_of_ne hb with hneg | hpos
  · -- `a / b = -a / -b` with a positive denominator
    rw [if_neg (not_lt.mpr hneg.le), if_neg (not_lt.mpr hneg.le), ← neg_div_neg_eq a b,
      div_lt_div_iff₀ (neg_pos.mpr hneg) hd, div_lt_div_iff₀ hd (neg_pos.mpr hneg),
      neg_mul, mul_neg, neg_lt_neg_iff, neg_lt_neg_iff]
    exact ⟨Iff.rfl, Iff.rfl⟩
  · rw [if_pos hpos, if_pos hpos, div_lt_div_iff₀ hpos hd, div_lt_div_iff₀ hd hpos]
    exact ⟨Iff.rfl, Iff.rfl⟩

theorem ratio_tests (a b : ℤ) (p q : ℕ) (hb : b ≠ 0) (hq : 0 < q) :
    (valLt (.ratio a b) (.float p q) = true ↔ (a : ℚ) / b < (p : ℚ) / q) ∧
    (valEq (.ratio a b) (.float p q) = true ↔ (a : ℚ) / b = (p : ℚ) / q) ∧
    (valGt (.ratio a b) (.float p q) = true ↔ (p : ℚ) / q < (a : ℚ) / b) := by
  have e1 : (a : ℚ) * (q : ℚ) = ((a * (q : ℤ) : ℤ) : ℚ) := by rw [Int.cast_mul, Int.cast_natCast]
  have e2 : (p : ℚ) * (b : ℚ) = (((p : ℤ) * b : ℤ) : ℚ) := by rw [Int.cast_mul, Int.cast_natCast]
  have hb' : (b : ℚ) ≠ 0 := Int.cast_ne_zero.mpr hb
  have hq' : (0 : ℚ) < q := Nat.cast_pos.mpr hq
  have h := div_lt_div_cross (a := (a : ℚ)) (c := (p : ℚ)) hb' hq'
  have h3 := div_eq_div_iff (a := (a : ℚ)) (c := (p : ℚ)) hb' hq'.ne'
  rw [e1, e2] at h h3
  simp only [Int.cast_lt, Int.cast_pos, Int.cast_inj] at h h3
  rw [h.1, h.2, h3]
  refine ⟨?_, decide_eq_true_iff, ?_⟩
  · show (if 0 < b then decide _ else decide _) = true ↔ _
    split <;> exact decide_eq_true_iff
  · show (if 0 < b then decide _ else decide _) = true ↔ _
    split <;> exact decide_eq_true_iff

/-- `fn <op> literal` when both reads of the mapper return `x`: `le` / `ge` (which read a second time when the
    first test fails) and `neq` are built from the three Go tests as `predicates.go` builds them -/
theorem eval_cmp_of_tests {σ α : Type} [LinearOrder α] (rd : Reader σ) (op : Cmp) (f : Fn) (v : Lit) (s : σ) (x : Val)
    (X Y : α) (h1 : (rd.call f s).2 = x) (h2 : (rd.call f (rd.call f s).1).2 = x)
    (hlt : valLt x v = true ↔ X < Y) (heq : valEq x v = true ↔ X = Y) (hgt : valGt x v = true ↔ Y < X) :
    (eval rd (.cmp op f v) s).2 = true ↔ rel op X Y := by
  cases op <;> simp only [eval, atom, rel, h1]
  · exact heq
  · rw [Bool.not_eq_true', ← Bool.not_eq_true, heq]
  · exact hlt
  · rw [h2, le_iff_lt_or_eq, ← hlt, ← heq]
    cases valLt x v <;> simp
  · exact hgt
  · rw [h2, ge_iff_le, le_iff_lt_or_eq, ← hgt, eq_comm (a := Y), ← heq]
    cases valGt x v <;> simp

/-- the evaluator only moves the state through mapper calls: what every call keeps, `eval` keeps -/
theorem eval_preserves {σ : Type} (rd : Reader σ) (R : σ → Prop) (hcall : ∀ f s, R s → R (rd.call f s).1) :
    ∀ (e : Expr) (s : σ), R s → R (eval rd e s).1 := by
  intro e
  induction e with
  | bad => intro s h; exact h
  | cmp op f v =>
    intro s h
    have h1 := hcall f s h
    cases op
    case eq => exact h1
    case neq => exact h1
    case lt => exact h1
    case gt => exact h1
    case le =>
      simp only [eval]
      split
      · exact h1
      · exact hcall f _ h1
    case ge =>
      simp only [eval]
      split
      · exact h1
      · exact hcall f _ h1
  | and a b iha ihb =>
    intro s h
    have h2 := ihb _ (iha s h)
    simp only [eval]
    split
    · exact iha s h
    · split
      · exact h2
      · exact h2
  | or a b iha ihb =>
    intro s h
    have h2 := ihb _ (iha s h)
    simp only [eval]
    split
    · exact iha s h
    · split
      · exact h2
      · exact h2

/-- the value every mapper reports is the same from `s'` as from `s` -/
def ReportsLike {σ : Type} (rd : Reader σ) (s s' : σ) : Prop :=
  ∀ g, (rd.call g s').2 = (rd.call g s).2

/-- reading never changes what any mapper reports -/
def Stable {σ : Type} (rd : Reader σ) : Prop :=
  ∀ s f g, (rd.call g (rd.call f s).1).2 = (rd.call g s).2

/-- `toFloat64` mappers return a quotient with non-zero denominator, `toInt` mappers an integer -/
def WellFormed {σ : Type} (rd : Reader σ) : Prop :=
  ∀ (s : σ) (f : Fn),
    if f.isInt = true then ∃ i, (rd.call f s).2 = Val.int i else ∃ a b, b ≠ 0 ∧ (rd.call f s).2 = Val.ratio a b

theorem ReportsLike.refl {σ : Type} (rd : Reader σ) (s : σ) : ReportsLike rd s s := fun _ => rfl

theorem ReportsLike.call {σ : Type} {rd : Reader σ} (hst : Stable rd) {s s' : σ} (h : ReportsLike rd s s')
    (f : Fn) :
    ReportsLike rd s (rd.call f s').1 := fun g => (hst s' f g).trans (h g)

theorem eval_cmp {σ : Type} {rd : Reader σ} (hst : Stable rd) (hwf : WellFormed rd) {s s' : σ}
    (hs : ReportsLike rd s s') (op : Cmp) (f : Fn) (v : Lit)
    (hty : (if f.isInt then v.isInt else v.isFloat) = true) :
    (eval rd (.cmp op f v) s').2 = true ↔ Denote (envOf rd s) (.cmp op f v) := by
  have h1 := hs f
  have h2 := hs.call hst f f
  have hw := hwf s f
  have ratio : (∃ a b, b ≠ 0 ∧ (rd.call f s).2 = Val.ratio a b) → v.isFloat = true →
      ((eval rd (.cmp op f v) s').2 = true ↔ rel op (rd.call f s).2.toQ v.toQ) := fun ⟨a, b, hb, hx⟩ hty => by
    cases v with
    | int _ => cases hty
    | float p q =>
      obtain ⟨t1, t2, t3⟩ := ratio_tests a b p q hb (of_decide_eq_true hty)
      rw [hx]
      exact eval_cmp_of_tests rd op f _ s' _ _ _ (h1.trans hx) (h2.trans hx) t1 t2 t3
  cases f with
  | lat q =>
    obtain ⟨i, hi⟩ := hw
    cases v with
    | float _ _ => cases hty
    | int n =>
      show _ ↔ rel op (rd.call (.lat q) s).2.toZ (n : ℤ)
      rw [hi]
      exact eval_cmp_of_tests rd op _ _ s' _ i (n : ℤ) (h1.trans hi) (h2.trans hi) (by simp [valLt]) (by simp [valEq])
        (by simp [valGt])
  | ner => exact ratio hw hty
  | rcr a0 a1 b0 b1 => exact ratio hw hty

/-- **the evaluator is the standard semantics**; `s'` is any state that reports like `s`, as every state the
    evaluation passes through does (`eval_preserves`) -/
theorem eval_denote {σ : Type} {rd : Reader σ} (hst : Stable rd) (hwf : WellFormed rd) (s : σ) :
    ∀ (e : Expr) (s' : σ), e.wellTyped = true → ReportsLike rd s s' →
      ((eval rd e s').2 = true ↔ Denote (envOf rd s) e) := by
  have hsim : ∀ e s', ReportsLike rd s s' → ReportsLike rd s (eval rd e s').1 :=
    eval_preserves rd (ReportsLike rd s) (fun f _ h => h.call hst f)
  intro e
  induction e with
  | cmp op f v =>
    intro s' hty hs
    simp only [Expr.wellTyped, Bool.and_eq_true] at hty
    exact eval_cmp hst hwf hs op f v hty.2
  | bad => intro s' hty _; cases hty
  | and a b iha ihb =>
    intro s' hty hs
    simp only [Expr.wellTyped, Bool.and_eq_true] at hty
    have a1 := iha s' hty.1 hs
    have b1 := ihb _ hty.2 (hsim a s' hs)
    simp only [eval, Denote, ← a1, ← b1]
    -- the early returns of the loop against `∧` of the two results: a four-row truth table
    cases (eval rd a s').2 <;> cases (eval rd b (eval rd a s').1).2 <;> simp
  | or a b iha ihb =>
    intro s' hty hs
    simp only [Expr.wellTyped, Bool.and_eq_true] at hty
    have a1 := iha s' hty.1 hs
    have b1 := ihb _ hty.2 (hsim a s' hs)
    simp only [eval, Denote, ← a1, ← b1]
    -- the same table against `∨`
    cases (eval rd a s').2 <;> cases (eval rd b (eval rd a s').1).2 <;> simp

end CBExpr

namespace CB
open CBExpr

theorem reader_stable (now : Nat) (orc : Oracle) : Stable (reader now orc) := by
  intro m f g
  exact (call_meq orc g (call_meq orc f (MEq.refl now m)).2).1

theorem reader_wellFormed (now : Nat) (orc : Oracle) : WellFormed (reader now orc) := by
  intro m f
  cases f with
  | lat q => exact ⟨_, rfl⟩
  | ner =>
    show ∃ a b, b ≠ 0 ∧ (Metrics.ner now m).2 = .ratio a b
    rw [ner_val]
    split
    · exact ⟨0, 1, by decide, rfl⟩
    · next hz => exact ⟨_, _, hz, rfl⟩
  | rcr a b c d =>
    show ∃ x y, y ≠ 0 ∧ (Metrics.rcr now a.nat b.nat c.nat d.nat m).2 = .ratio x y
    rw [rcr_val]
    split
    · next hz => exact ⟨_, _, hz, rfl⟩
    · exact ⟨0, 1, by decide, rfl⟩

/-- a check trips iff it is due, the breaker is not tripped already and the condition holds in its standard reading -/
theorem check_trips_iff (c : Cfg) (b : Brk) (now : Nat) (orc : Oracle) (hwt : c.cond.wellTyped = true) :
    (checkAndSet c b now orc).2 = true ↔
      (now > b.lastCheck ∧ b.state ≠ .tripped ∧ Denote (envOf (reader now orc) b.met) c.cond) := by
  rw [check_true_iff, eval_denote (reader_stable now orc) (reader_wellFormed now orc) b.met c.cond _ hwt (ReportsLike.refl _ _)]

/-- stated on `checkAndSet`: `step c x (.check t' orc)` is `checkAndSet c x t' orc` with the flag shown as `done` -/
theorem retrip_at (c : Cfg) (x : Brk) (n t' : Nat) (orc : Oracle) (hwt : c.cond.wellTyped = true)
    (hx : x.state = .recovering) (hn : x.tripped = n) (hdue : t' > x.lastCheck) :
    (Denote (envOf (reader t' orc) x.met) c.cond →
      Obs.done (checkAndSet c x t' orc).2 = .done true ∧
      (checkAndSet c x t' orc).1.state = .tripped ∧
      (checkAndSet c x t' orc).1.until_ = t' + c.fallbackDur ∧
      (checkAndSet c x t' orc).1.tripped = n + 1 ∧
      ∀ mid, (∀ e ∈ mid, e.time < t' + c.fallbackDur) →
        (run c (checkAndSet c x t' orc).1 mid).2 = mid.map shieldObs) ∧
    (¬ Denote (envOf (reader t' orc) x.met) c.cond →
      Obs.done (checkAndSet c x t' orc).2 = .done false ∧ (checkAndSet c x t' orc).1.state = .recovering) := by
  have hiff := check_trips_iff c x t' orc hwt
  constructor
  · intro hd
    have hflag : (checkAndSet c x t' orc).2 = true := hiff.mpr ⟨hdue, by rw [hx]; nofun, hd⟩
    have f := check_trip c x t' orc hflag
    refine ⟨congrArg Obs.done hflag, f.state, f.until_, by rw [f.tripped, hn], fun mid hmid => ?_⟩
    exact (shield c mid _ f.state (fun e he => by rw [f.until_]; exact hmid e he)).2.2.2.2
  · intro hd
    have hflag : (checkAndSet c x t' orc).2 = false :=
      Bool.eq_false_iff.mpr fun hf => hd (hiff.mp hf).2.2
    exact ⟨congrArg Obs.done hflag, (check_false c x t' orc hflag).state.trans hx⟩

end CB
