import OxyModel.Model.CBreaker
import OxyModel.Proofs.Counter.Cleanup

/-! The mappers of `CB.reader`.  No Mathlib here: `codeSum` below, which `C18_env_values` mentions, sums with `List.sum`, and on `Int`
that takes its `Zero` from Mathlib's algebra once that is in scope.  What the two ratio functions return (`ner_val`, `rcr_val`), and
that reading does not change what is read: `Count()` cleans a counter up, but cleaning up twice at one instant
is cleaning up once (`Counter/Cleanup.lean`), so every mapper reads the same from metrics that differ by such
clean-ups and leaves such metrics (`MEq`, `call_meq`). -/
namespace CB
open CBExpr

theorem ner_eq (now : Nat) (m : Metrics) :
    Metrics.ner now m =
      if (RCnt.count ccfg m.total now).2 = 0 then
        ({ m with total := (RCnt.count ccfg m.total now).1 }, .ratio 0 1)
      else
        ({ m with total := (RCnt.count ccfg (RCnt.count ccfg m.total now).1 now).1,
                  netErrors := (RCnt.count ccfg m.netErrors now).1 },
          .ratio (RCnt.count ccfg m.netErrors now).2 (RCnt.count ccfg (RCnt.count ccfg m.total now).1 now).2) := rfl

/-- the second `Count()` of the total reads what the first one read -/
theorem ner_val (now : Nat) (m : Metrics) :
    (Metrics.ner now m).2 =
      if (RCnt.count ccfg m.total now).2 = 0 then .ratio 0 1
      else .ratio (RCnt.count ccfg m.netErrors now).2 (RCnt.count ccfg m.total now).2 := by
  rw [ner_eq, RCnt.count_ceq (RCnt.count_fst_ceq ccfg now m.total)]
  split <;> rfl

theorem rcrOne_vals (now a0 a1 b0 b1 k : Nat) (s : RCnt.St) :
    (rcrOne now a0 a1 b0 b1 k s).2 =
      (if k < a1 ∧ k ≥ a0 then (RCnt.count ccfg s now).2 else 0,
       if k < b1 ∧ k ≥ b0 then (RCnt.count ccfg s now).2 else 0) := by
  unfold rcrOne
  dsimp only
  by_cases hA : k < a1 ∧ k ≥ a0
  · rw [if_pos hA, if_pos hA, RCnt.count_ceq (RCnt.count_fst_ceq ccfg now s), apply_ite Prod.snd]
  · rw [if_neg hA, if_neg hA, apply_ite Prod.snd]

theorem rcrLoop_cons (now a0 a1 b0 b1 k : Nat) (s : RCnt.St) (rest : List (Nat × RCnt.St)) :
    rcrLoop now a0 a1 b0 b1 ((k, s) :: rest) =
      ((k, (rcrOne now a0 a1 b0 b1 k s).1) :: (rcrLoop now a0 a1 b0 b1 rest).1,
        (rcrOne now a0 a1 b0 b1 k s).2.1 + (rcrLoop now a0 a1 b0 b1 rest).2.1,
        (rcrOne now a0 a1 b0 b1 k s).2.2 + (rcrLoop now a0 a1 b0 b1 rest).2.2) := rfl

/-- sum of the window counts of the status codes in `[lo, hi)` -/
def codeSum (now lo hi : Nat) (codes : List (Nat × RCnt.St)) : Int :=
  ((codes.filter (fun e => decide (e.1 < hi ∧ e.1 ≥ lo))).map (fun e => (RCnt.count ccfg e.2 now).2)).sum

theorem codeSum_cons (now lo hi k : Nat) (s : RCnt.St) (l : List (Nat × RCnt.St)) :
    codeSum now lo hi ((k, s) :: l) =
      (if k < hi ∧ k ≥ lo then (RCnt.count ccfg s now).2 else 0) + codeSum now lo hi l := by
  unfold codeSum
  by_cases h : k < hi ∧ k ≥ lo
  · rw [if_pos h, List.filter_cons_of_pos (by simpa using h), List.map_cons, List.sum_cons]
  · rw [if_neg h, List.filter_cons_of_neg (by simpa using h), Int.zero_add]

theorem rcrLoop_sums (now a0 a1 b0 b1 : Nat) : ∀ (l : List (Nat × RCnt.St)),
    (rcrLoop now a0 a1 b0 b1 l).2 = (codeSum now a0 a1 l, codeSum now b0 b1 l)
  | [] => rfl
  | (k, s) :: l => by
    have ih := rcrLoop_sums now a0 a1 b0 b1 l
    rw [rcrLoop_cons, codeSum_cons, codeSum_cons]
    dsimp only
    rw [ih, rcrOne_vals]

theorem rcr_val (now a0 a1 b0 b1 : Nat) (m : Metrics) :
    (Metrics.rcr now a0 a1 b0 b1 m).2 =
      if codeSum now b0 b1 m.codes ≠ 0 then .ratio (codeSum now a0 a1 m.codes) (codeSum now b0 b1 m.codes)
      else .ratio 0 1 := by
  unfold Metrics.rcr
  dsimp only
  rw [rcrLoop_sums]

theorem ner_reset (m : Metrics) (now : Nat) : (Metrics.ner now m.reset).2 = .ratio 0 1 := by
  rw [ner_val]
  exact if_pos (RCnt.count_reset _ _ _)

theorem rcr_reset (m : Metrics) (now a0 a1 b0 b1 : Nat) :
    (Metrics.rcr now a0 a1 b0 b1 m.reset).2 = .ratio 0 1 := by
  rfl

/-- the same status codes, each counter possibly cleaned up at `now` -/
inductive CodesEq (now : Nat) : List (Nat × RCnt.St) → List (Nat × RCnt.St) → Prop
  | nil : CodesEq now [] []
  | cons {k : Nat} {s s' : RCnt.St} {l l' : List (Nat × RCnt.St)} :
      RCnt.CEq ccfg now s s' → CodesEq now l l' → CodesEq now ((k, s) :: l) ((k, s') :: l')

theorem CodesEq.refl (now : Nat) : ∀ l, CodesEq now l l
  | [] => .nil
  | (_, s) :: l => .cons (RCnt.CEq.refl ccfg now s) (CodesEq.refl now l)

/-- metrics that differ by clean-ups at `now` -/
def MEq (now : Nat) (m m' : Metrics) : Prop :=
  RCnt.CEq ccfg now m.total m'.total ∧ RCnt.CEq ccfg now m.netErrors m'.netErrors ∧ CodesEq now m.codes m'.codes

theorem MEq.refl (now : Nat) (m : Metrics) : MEq now m m :=
  ⟨RCnt.CEq.refl _ _ _, RCnt.CEq.refl _ _ _, CodesEq.refl _ _⟩

theorem ner_meq {now : Nat} {m m' : Metrics} (h : MEq now m m') :
    (Metrics.ner now m').2 = (Metrics.ner now m).2 ∧ MEq now m (Metrics.ner now m').1 := by
  obtain ⟨h1, h2, h3⟩ := h
  have e1 := RCnt.count_ceq h1
  have e2 := RCnt.count_ceq h2
  have e3 : RCnt.count ccfg (RCnt.count ccfg m.total now).1 now = RCnt.count ccfg m.total now :=
    RCnt.count_ceq (RCnt.count_fst_ceq ccfg now m.total)
  rw [ner_eq, ner_eq, e1, e2, e3]
  by_cases hz : (RCnt.count ccfg m.total now).2 = 0
  · rw [if_pos hz, if_pos hz]
    dsimp only
    exact ⟨rfl, RCnt.count_fst_ceq ccfg now m.total, h2, h3⟩
  · rw [if_neg hz, if_neg hz]
    dsimp only
    exact ⟨rfl, RCnt.count_fst_ceq ccfg now m.total, RCnt.count_fst_ceq ccfg now m.netErrors, h3⟩

theorem rcrOne_ceq (now a0 a1 b0 b1 k : Nat) {s s' : RCnt.St} (hs : RCnt.CEq ccfg now s s') :
    (rcrOne now a0 a1 b0 b1 k s').2 = (rcrOne now a0 a1 b0 b1 k s).2 ∧
    RCnt.CEq ccfg now s (rcrOne now a0 a1 b0 b1 k s').1 := by
  refine ⟨by rw [rcrOne_vals, rcrOne_vals, RCnt.count_ceq hs], ?_⟩
  -- each of the two guarded `Count()`s leaves the counter as it is or cleans it up
  have stage : ∀ (P : Prop) [Decidable P] {x : RCnt.St}, RCnt.CEq ccfg now s x →
      RCnt.CEq ccfg now s (if P then RCnt.count ccfg x now else (x, 0)).1 := fun P _ x h => by
    split
    · exact h.count
    · exact h
  exact stage _ (stage _ hs)

theorem rcrLoop_ceq (now a0 a1 b0 b1 : Nat) {l l' : List (Nat × RCnt.St)} (h : CodesEq now l l') :
    (rcrLoop now a0 a1 b0 b1 l').2 = (rcrLoop now a0 a1 b0 b1 l).2 ∧
    CodesEq now l (rcrLoop now a0 a1 b0 b1 l').1 := by
  induction h with
  | nil => exact ⟨rfl, .nil⟩
  | cons hs _ ih =>
    obtain ⟨o1, o2⟩ := rcrOne_ceq now a0 a1 b0 b1 _ hs
    rw [rcrLoop_cons, rcrLoop_cons, o1, ih.1]
    exact ⟨rfl, .cons o2 ih.2⟩

theorem rcr_meq {now : Nat} {m m' : Metrics} (a0 a1 b0 b1 : Nat) (h : MEq now m m') :
    (Metrics.rcr now a0 a1 b0 b1 m').2 = (Metrics.rcr now a0 a1 b0 b1 m).2 ∧
    MEq now m (Metrics.rcr now a0 a1 b0 b1 m').1 := by
  obtain ⟨h1, h2, h3⟩ := h
  obtain ⟨i1, i2⟩ := rcrLoop_ceq now a0 a1 b0 b1 h3
  unfold Metrics.rcr
  dsimp only
  rw [i1]
  exact ⟨rfl, h1, h2, i2⟩

theorem call_meq {now : Nat} (orc : Oracle) {m m' : Metrics} (f : Fn) (h : MEq now m m') :
    ((reader now orc).call f m').2 = ((reader now orc).call f m).2 ∧
    MEq now m ((reader now orc).call f m').1 := by
  cases f with
  | ner => exact ner_meq h
  | rcr a b c d => exact rcr_meq _ _ _ _ h
  | lat q => exact ⟨rfl, h⟩

end CB
