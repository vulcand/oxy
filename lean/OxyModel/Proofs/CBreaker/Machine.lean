import OxyModel.Model.CBreaker

/-! The breaker state machine of `Model/CBreaker.lean`, one step at a time.

An arrival moves `state`, `until_`, `rc`, `standbys` and nothing else (`arrive_cases`); every other event is
a `record`, a `checkAndSet`, or the two back to back, and either trips the breaker (`Trip`) or is *quiet*
(`Quiet`): it moves only the metrics and the evaluation schedule.  Everything about traces is an induction
over this trichotomy (`step_cases`).  The recorded breaker is written `{ b with met := b.met.record t code }`;
`complete` unfolds to `checkAndSet` at it by `rfl`, so every fact about `checkAndSet` is one about `complete`. -/
namespace CB
open CBExpr

theorem check_cases (c : Cfg) (b : Brk) (now : Nat) (orc : Oracle) :
    (¬ now > b.lastCheck ∧ checkAndSet c b now orc = (b, false)) ∨
    (now > b.lastCheck ∧ b.state = .tripped ∧
      checkAndSet c b now orc = ({ b with lastCheck := now + c.checkPeriod }, false)) ∨
    (now > b.lastCheck ∧ b.state ≠ .tripped ∧ (eval (reader now orc) c.cond b.met).2 = true ∧
      checkAndSet c b now orc =
        ({ b with lastCheck := now + c.checkPeriod, state := .tripped, until_ := now + c.fallbackDur,
                  tripped := b.tripped + 1, met := (eval (reader now orc) c.cond b.met).1.reset }, true)) ∨
    (now > b.lastCheck ∧ b.state ≠ .tripped ∧ (eval (reader now orc) c.cond b.met).2 = false ∧
      checkAndSet c b now orc =
        ({ b with lastCheck := now + c.checkPeriod, met := (eval (reader now orc) c.cond b.met).1 }, false)) := by
  unfold checkAndSet
  dsimp only
  by_cases h1 : now > b.lastCheck
  · rw [if_pos h1]
    by_cases h2 : b.state = .tripped
    · rw [if_pos h2]; exact .inr (.inl ⟨h1, h2, rfl⟩)
    · rw [if_neg h2]
      cases h3 : (eval (reader now orc) c.cond b.met).2
      · exact .inr (.inr (.inr ⟨h1, h2, rfl, rfl⟩))
      · exact .inr (.inr (.inl ⟨h1, h2, rfl, rfl⟩))
  · rw [if_neg h1]; exact .inl ⟨h1, rfl⟩

theorem check_true_iff (c : Cfg) (b : Brk) (now : Nat) (orc : Oracle) :
    (checkAndSet c b now orc).2 = true ↔
      (now > b.lastCheck ∧ b.state ≠ .tripped ∧ (eval (reader now orc) c.cond b.met).2 = true) := by
  rcases check_cases c b now orc with ⟨h1, h⟩ | ⟨_, h2, h⟩ | ⟨h1, h2, h3, h⟩ | ⟨_, _, h3, h⟩ <;> rw [h]
  · exact ⟨nofun, fun g => absurd g.1 h1⟩
  · exact ⟨nofun, fun g => absurd h2 g.2.1⟩
  · exact ⟨fun _ => ⟨h1, h2, h3⟩, fun _ => rfl⟩
  · exact ⟨nofun, fun g => Bool.noConfusion (h3.symm.trans g.2.2)⟩

/-- `b'` differs from `b` at most in the metrics and in a later evaluation schedule -/
structure Quiet (b b' : Brk) : Prop where
  state : b'.state = b.state
  until_ : b'.until_ = b.until_
  rc : b'.rc = b.rc
  tripped : b'.tripped = b.tripped
  standbys : b'.standbys = b.standbys
  lastCheck : b.lastCheck ≤ b'.lastCheck

/-- `record b t code` is `{ b with met := … }`: a fact about the recorded breaker is stated on that form -/
theorem Quiet.of_record {b b' : Brk} {m : Metrics} (h : Quiet { b with met := m } b') : Quiet b b' :=
  ⟨h.state, h.until_, h.rc, h.tripped, h.standbys, h.lastCheck⟩

/-- `b'` is `b` tripped by a check at `t` -/
structure Trip (c : Cfg) (b : Brk) (t : Nat) (b' : Brk) : Prop where
  state : b'.state = .tripped
  until_ : b'.until_ = t + c.fallbackDur
  tripped : b'.tripped = b.tripped + 1
  standbys : b'.standbys = b.standbys
  was : b.state ≠ .tripped
  reset : ∃ m' : Metrics, b'.met = m'.reset

theorem Trip.of_record {c : Cfg} {b b' : Brk} {t : Nat} {m : Metrics} (h : Trip c { b with met := m } t b') :
    Trip c b t b' :=
  ⟨h.state, h.until_, h.tripped, h.standbys, h.was, h.reset⟩

theorem check_trip (c : Cfg) (b : Brk) (now : Nat) (orc : Oracle) (h : (checkAndSet c b now orc).2 = true) :
    Trip c b now (checkAndSet c b now orc).1 := by
  rcases check_cases c b now orc with ⟨_, h'⟩ | ⟨_, _, h'⟩ | ⟨_, h2, _, h'⟩ | ⟨_, _, _, h'⟩ <;> rw [h'] at h ⊢
  · cases h
  · cases h
  · exact ⟨rfl, rfl, rfl, rfl, h2, _, rfl⟩
  · cases h

theorem check_false (c : Cfg) (b : Brk) (now : Nat) (orc : Oracle)
    (h : (checkAndSet c b now orc).2 = false) : Quiet b (checkAndSet c b now orc).1 := by
  have hle : now > b.lastCheck → b.lastCheck ≤ now + c.checkPeriod := fun h1 =>
    Nat.le_trans (Nat.le_of_lt h1) (Nat.le_add_right _ _)
  rcases check_cases c b now orc with ⟨_, h'⟩ | ⟨h1, _, h'⟩ | ⟨_, _, _, h'⟩ | ⟨h1, _, _, h'⟩ <;> rw [h'] at h ⊢
  · exact ⟨rfl, rfl, rfl, rfl, rfl, Nat.le_refl _⟩
  · exact ⟨rfl, rfl, rfl, rfl, rfl, hle h1⟩
  · cases h
  · exact ⟨rfl, rfl, rfl, rfl, rfl, hle h1⟩

theorem check_lastCheck (c : Cfg) (b : Brk) (now : Nat) (orc : Oracle) :
    (now > b.lastCheck → (checkAndSet c b now orc).1.lastCheck = now + c.checkPeriod) ∧
    (¬ now > b.lastCheck → checkAndSet c b now orc = (b, false)) := by
  rcases check_cases c b now orc with ⟨h1, h⟩ | ⟨h1, _, h⟩ | ⟨h1, _, _, h⟩ | ⟨h1, _, _, h⟩ <;> rw [h]
  · exact ⟨fun g => absurd g h1, fun _ => rfl⟩
  · exact ⟨fun _ => rfl, fun g => absurd h1 g⟩
  · exact ⟨fun _ => rfl, fun g => absurd h1 g⟩
  · exact ⟨fun _ => rfl, fun g => absurd h1 g⟩

theorem record_fields (b : Brk) (now code : Nat) : Quiet b (record b now code) := by
  unfold record; exact ⟨rfl, rfl, rfl, rfl, rfl, Nat.le_refl _⟩

/-- `metrics.Record` does not touch the evaluation schedule (`Quiet` only says it does not move back) -/
theorem record_lastCheck (b : Brk) (now code : Nat) : (record b now code).lastCheck = b.lastCheck := by
  unfold record; rfl

theorem complete_false (c : Cfg) (b : Brk) (now code : Nat) (orc : Oracle)
    (h : (complete c b now code orc).2 = false) : Quiet b (complete c b now code orc).1 :=
  (check_false c { b with met := b.met.record now code } now orc h).of_record

theorem arrive_standby (c : Cfg) (b : Brk) (now : Nat) (h : b.state = .standby) :
    arrive c b now = (.pass, b) := by
  unfold arrive; simp [h]

theorem arrive_tripped_before (c : Cfg) (b : Brk) (now : Nat) (h : b.state = .tripped) (hlt : now < b.until_) :
    arrive c b now = (.fallback, b) := by
  unfold arrive; simp [h, hlt]

theorem arrive_tripped_after (c : Cfg) (b : Brk) (now : Nat) (h : b.state = .tripped) (hge : b.until_ ≤ now) :
    arrive c b now = (.fallback, { b with state := .recovering, until_ := now + c.recoveryDur,
                                          rc := ⟨now, c.recoveryDur, 0, 1⟩ }) := by
  unfold arrive recoveringCase RC.allow
  have h1 : ¬ now < b.until_ := Nat.not_lt.mpr hge
  have h2 : ¬ now > now + c.recoveryDur := Nat.not_lt.mpr (Nat.le_add_right _ _)
  simp [h, h1, h2]

theorem arrive_recovering_after (c : Cfg) (b : Brk) (now : Nat) (h : b.state = .recovering) (hgt : now > b.until_) :
    arrive c b now = (.pass, { b with state := .standby, until_ := now, standbys := b.standbys + 1 }) := by
  unfold arrive recoveringCase; simp [h, hgt]

theorem arrive_recovering_within (c : Cfg) (b : Brk) (now : Nat) (h : b.state = .recovering) (hle : now ≤ b.until_) :
    arrive c b now = (if (b.rc.allow now).1 then .pass else .fallback, { b with rc := (b.rc.allow now).2 }) := by
  have h1 : ¬ now > b.until_ := Nat.not_lt.mpr hle
  unfold arrive recoveringCase; simp [h, h1]

theorem arrive_cases (c : Cfg) (b : Brk) (t : Nat) {P : Out × Brk → Prop}
    (standby : b.state = .standby → P (.pass, b))
    (shielded : b.state = .tripped → t < b.until_ → P (.fallback, b))
    (recover : b.state = .tripped → b.until_ ≤ t →
      P (.fallback, { b with state := .recovering, until_ := t + c.recoveryDur, rc := ⟨t, c.recoveryDur, 0, 1⟩ }))
    (ramp : b.state = .recovering → t ≤ b.until_ →
      P (if (b.rc.allow t).1 then .pass else .fallback, { b with rc := (b.rc.allow t).2 }))
    (done : b.state = .recovering → t > b.until_ →
      P (.pass, { b with state := .standby, until_ := t, standbys := b.standbys + 1 })) :
    P (arrive c b t) := by
  cases hs : b.state with
  | standby => rw [arrive_standby c b t hs]; exact standby hs
  | tripped =>
    by_cases h1 : t < b.until_
    · rw [arrive_tripped_before c b t hs h1]; exact shielded hs h1
    · rw [arrive_tripped_after c b t hs (Nat.le_of_not_lt h1)]; exact recover hs (Nat.le_of_not_lt h1)
  | recovering =>
    by_cases h1 : t > b.until_
    · rw [arrive_recovering_after c b t hs h1]; exact done hs h1
    · rw [arrive_recovering_within c b t hs (Nat.le_of_not_lt h1)]; exact ramp hs (Nat.le_of_not_lt h1)

theorem arrive_frame (c : Cfg) (b : Brk) (t : Nat) :
    (arrive c b t).2.met = b.met ∧ (arrive c b t).2.tripped = b.tripped ∧
    (arrive c b t).2.lastCheck = b.lastCheck := by
  exact arrive_cases c b t (P := fun r => r.2.met = b.met ∧ r.2.tripped = b.tripped ∧ r.2.lastCheck = b.lastCheck)
    (fun _ => ⟨rfl, rfl, rfl⟩) (fun _ _ => ⟨rfl, rfl, rfl⟩) (fun _ _ => ⟨rfl, rfl, rfl⟩)
    (fun _ _ => ⟨rfl, rfl, rfl⟩) (fun _ _ => ⟨rfl, rfl, rfl⟩)

theorem step_arrive (c : Cfg) (b : Brk) (t : Nat) :
    step c b (.arrive t) =
      ((arrive c b t).2, if (arrive c b t).1 = .pass then .pass else .fallback) := by
  show (_, _) = _
  cases (arrive c b t).1 <;> rfl

/-- the arrival that starts the recovery: refused, and it leaves the explicit record the ramp starts from -/
theorem step_recover (c : Cfg) (b : Brk) (t0 : Nat) (hs : b.state = .tripped) (hdue : b.until_ ≤ t0) :
    step c b (.arrive t0) =
      ({ b with state := .recovering, until_ := t0 + c.recoveryDur, rc := ⟨t0, c.recoveryDur, 0, 1⟩ }, .fallback) := by
  rw [step_arrive, arrive_tripped_after c b t0 hs hdue]
  rfl

/-- what a shielded trace shows: every arrival is answered by the fallback, no completion trips -/
def shieldObs : Ev → Obs
  | .arrive _ => .fallback
  | .record _ _ => .recorded
  | .check _ _ => .done false
  | .complete _ _ _ => .done false

theorem shieldObs_quiet {e : Ev} (harr : ∀ t, e ≠ .arrive t) :
    shieldObs e ≠ .pass ∧ shieldObs e ≠ .fallback ∧ shieldObs e ≠ .done true := by
  cases e with
  | arrive t => exact absurd rfl (harr t)
  | record t code => exact ⟨nofun, nofun, nofun⟩
  | check t orc => exact ⟨nofun, nofun, nofun⟩
  | complete t code orc => exact ⟨nofun, nofun, nofun⟩

/-- `shieldObs e` here in its second role: what any event other than an arrival shows when it does not trip -/
theorem step_cases (c : Cfg) (b : Brk) (e : Ev) :
    (∃ t, e = .arrive t) ∨
    ((step c b e).2 = .done true ∧ Trip c b e.time (step c b e).1) ∨
    ((∀ t, e ≠ .arrive t) ∧ (step c b e).2 = shieldObs e ∧ Quiet b (step c b e).1) := by
  have check : ∀ (b : Brk) t orc,
      (Obs.done (checkAndSet c b t orc).2 = .done true ∧ Trip c b t (checkAndSet c b t orc).1) ∨
      (Obs.done (checkAndSet c b t orc).2 = .done false ∧ Quiet b (checkAndSet c b t orc).1) := fun b t orc => by
    cases hf : (checkAndSet c b t orc).2
    · exact .inr ⟨rfl, check_false c b t orc hf⟩
    · exact .inl ⟨rfl, check_trip c b t orc hf⟩
  cases e with
  | arrive t => exact .inl ⟨t, rfl⟩
  | record t code => exact .inr (.inr ⟨nofun, rfl, record_fields b t code⟩)
  | check t orc => exact .inr ((check b t orc).imp id fun h => ⟨nofun, h⟩)
  | complete t code orc =>
    -- a completion is `checkAndSet` on the breaker holding the recorded response
    exact .inr ((check { b with met := b.met.record t code } t orc).imp (fun h => ⟨h.1, h.2.of_record⟩)
      fun h => ⟨nofun, h.1, h.2.of_record⟩)

theorem step_done_true (c : Cfg) (b : Brk) (e : Ev) (h : (step c b e).2 = .done true) :
    Trip c b e.time (step c b e).1 := by
  rcases step_cases c b e with ⟨t, rfl⟩ | ⟨_, f⟩ | ⟨harr, ho, _⟩
  · rw [step_arrive] at h; split at h <;> cases h
  · exact f
  · exact absurd (ho ▸ h) (shieldObs_quiet harr).2.2

/-- in standby an event that does not trip leaves the breaker in standby, and no request gets the fallback -/
theorem step_standby (c : Cfg) (b : Brk) (e : Ev) (h : b.state = .standby) (hno : (step c b e).2 ≠ .done true) :
    (step c b e).1.state = .standby ∧ (step c b e).2 ≠ .fallback := by
  rcases step_cases c b e with ⟨t, rfl⟩ | ⟨hd, _⟩ | ⟨harr, ho, q⟩
  · rw [step_arrive, arrive_standby c b t h]
    exact ⟨h, nofun⟩
  · exact absurd hd hno
  · exact ⟨q.state.trans h, ho ▸ (shieldObs_quiet harr).2.1⟩

theorem run_nil (c : Cfg) (b : Brk) : run c b [] = (b, []) := rfl

theorem run_cons (c : Cfg) (b : Brk) (e : Ev) (es : List Ev) :
    run c b (e :: es) = ((run c (step c b e).1 es).1, (step c b e).2 :: (run c (step c b e).1 es).2) := rfl

theorem run_append (c : Cfg) : ∀ (xs ys : List Ev) (b : Brk),
    run c b (xs ++ ys) = ((run c (run c b xs).1 ys).1, (run c b xs).2 ++ (run c (run c b xs).1 ys).2)
  | [], ys, b => by simp [run_nil]
  | x :: xs, ys, b => by
    simp only [List.cons_append, run_cons, run_append c xs ys, List.cons_append]

theorem run_length (c : Cfg) : ∀ (es : List Ev) (b : Brk), (run c b es).2.length = es.length
  | [], b => rfl
  | e :: es, b => by simp [run_cons, run_length c es]

theorem states_append (c : Cfg) : ∀ (xs ys : List Ev) (b : Brk),
    states c b (xs ++ ys) = states c b xs ++ states c (run c b xs).1 ys
  | [], ys, b => by simp [states, run_nil]
  | x :: xs, ys, b => by simp [states, run_cons, states_append c xs ys]

/-- the `i`-th observation of a trace is what the `i`-th event shows on the breaker left by the events
    before it (so statements about `step c (run c b pre).1 e` are statements about the observations) -/
theorem obs_at (c : Cfg) (b : Brk) (pre : List Ev) (e : Ev) (post : List Ev) :
    (run c b (pre ++ e :: post)).2[pre.length]? = some (step c (run c b pre).1 e).2 := by
  rw [run_append, run_cons]
  simp [run_length]

theorem step_shielded (c : Cfg) (b : Brk) (e : Ev) (hs : b.state = .tripped) (hlt : e.time < b.until_) :
    Quiet b (step c b e).1 ∧ (step c b e).2 = shieldObs e := by
  rcases step_cases c b e with ⟨t, rfl⟩ | ⟨_, f⟩ | ⟨_, ho, q⟩
  · rw [step_arrive, arrive_tripped_before c b t hs hlt]
    exact ⟨⟨rfl, rfl, rfl, rfl, rfl, Nat.le_refl _⟩, rfl⟩
  · exact absurd hs f.was
  · exact ⟨q, ho⟩

/-- from a tripped breaker every event strictly before `until` leaves it tripped with the same deadline
    and the same effect counters, and every arrival is answered by the fallback -/
theorem shield (c : Cfg) : ∀ (es : List Ev) (b : Brk), b.state = .tripped →
    (∀ e ∈ es, e.time < b.until_) →
    (run c b es).1.state = .tripped ∧ (run c b es).1.until_ = b.until_ ∧
    (run c b es).1.tripped = b.tripped ∧ (run c b es).1.standbys = b.standbys ∧
    (run c b es).2 = es.map shieldObs
  | [], b, hs, _ => ⟨hs, rfl, rfl, rfl, rfl⟩
  | e :: es, b, hs, hlt => by
    obtain ⟨⟨q1, q2, _, q4, q5, _⟩, ho⟩ := step_shielded c b e hs (hlt e List.mem_cons_self)
    obtain ⟨i1, i2, i3, i4, i5⟩ := shield c es (step c b e).1 (q1.trans hs)
      (fun e' h => q2 ▸ hlt e' (List.mem_cons_of_mem _ h))
    rw [run_cons]
    exact ⟨i1, i2.trans q2, i3.trans q4, i4.trans q5, by rw [List.map_cons, ← ho, ← i5]⟩

/-- the allowed moves of the state, with the side-effect counters moving exactly with them -/
inductive Edge : Brk → Brk → Prop where
  | same {a b} : a.state = b.state → b.tripped = a.tripped → b.standbys = a.standbys → Edge a b
  | trip {a b} : a.state ≠ .tripped → b.state = .tripped → b.tripped = a.tripped + 1 →
      b.standbys = a.standbys → Edge a b
  | recover {a b} : a.state = .tripped → b.state = .recovering → b.tripped = a.tripped →
      b.standbys = a.standbys → Edge a b
  | standby {a b} : a.state = .recovering → b.state = .standby → b.tripped = a.tripped →
      b.standbys = a.standbys + 1 → Edge a b

theorem step_edge (c : Cfg) (b : Brk) (e : Ev) : Edge b (step c b e).1 := by
  rcases step_cases c b e with ⟨t, rfl⟩ | ⟨_, f⟩ | ⟨_, _, q⟩
  · rw [step_arrive]
    exact arrive_cases c b t (P := fun r => Edge b r.2) (fun _ => .same rfl rfl rfl)
      (fun _ _ => .same rfl rfl rfl) (fun hs _ => .recover hs rfl rfl rfl) (fun _ _ => .same rfl rfl rfl)
      (fun hs _ => .standby hs rfl rfl rfl)
  · exact .trip f.was f.state f.tripped f.standbys
  · exact .same q.state.symm q.tripped q.standbys

/-- number of entries into state `s` along a sequence of states -/
def entries (s : State) : List State → Nat
  | a :: b :: rest => (if a ≠ s ∧ b = s then 1 else 0) + entries s (b :: rest)
  | _ => 0

theorem entries_cons2 (s a b : State) (rest : List State) :
    entries s (a :: b :: rest) = (if a ≠ s ∧ b = s then 1 else 0) + entries s (b :: rest) := rfl

theorem Edge.counts {a b : Brk} (h : Edge a b) :
    b.tripped = a.tripped + (if a.state ≠ .tripped ∧ b.state = .tripped then 1 else 0) ∧
    b.standbys = a.standbys + (if a.state ≠ .standby ∧ b.state = .standby then 1 else 0) := by
  cases h with
  | same h1 h2 h3 => simp [h1, h2, h3]
  | trip h1 h2 h3 h4 => simp [h1, h2, h3, h4]
  | recover h1 h2 h3 h4 => simp [h1, h2, h3, h4]
  | standby h1 h2 h3 h4 => simp [h1, h2, h3, h4]

/-- over any trace the launched side effects are exactly the entries into `tripped` / `standby` -/
theorem effects_count (c : Cfg) : ∀ (es : List Ev) (b : Brk),
    (run c b es).1.tripped = b.tripped + entries .tripped (b.state :: (states c b es).map (·.state)) ∧
    (run c b es).1.standbys = b.standbys + entries .standby (b.state :: (states c b es).map (·.state))
  | [], _ => ⟨rfl, rfl⟩
  | e :: es, b => by
    obtain ⟨i1, i2⟩ := effects_count c es (step c b e).1
    obtain ⟨e1, e2⟩ := (step_edge c b e).counts
    rw [run_cons, states, List.map_cons, entries_cons2, entries_cons2, i1, i2, e1, e2]
    exact ⟨Nat.add_assoc _ _ _, Nat.add_assoc _ _ _⟩

/-- launches of the on-tripped effect = completions that tripped -/
theorem tripped_count (c : Cfg) : ∀ (es : List Ev) (b : Brk),
    (run c b es).1.tripped = b.tripped + (run c b es).2.count (.done true)
  | [], b => rfl
  | e :: es, b => by
    rw [run_cons, tripped_count c es]
    rcases step_cases c b e with ⟨t, rfl⟩ | ⟨hd, f⟩ | ⟨harr, ho, q⟩
    · rw [step_arrive, (arrive_frame c b t).2.1, List.count_cons_of_ne (by split <;> nofun)]
    · rw [f.tripped, hd, List.count_cons_self]
      exact Nat.add_right_comm _ _ _
    · rw [q.tripped, ho, List.count_cons_of_ne (shieldObs_quiet harr).2.2]

end CB
