import OxyModel.Model.ConnLimit

/-! The connection-limiter model: `step` by cases and the accounting invariant `Inv`.  `findReq`/`dropReq` are used as
a split of the in-flight list around the request found (`findReq_split`). -/
namespace ConnLimit

theorem get_put_same (m : Table) (s : String) (v : Int) : get (put m s v) s = v := by
  fun_induction put m s v with
  | case1 => simp [get]
  | case2 => simp [get]
  | case3 k w t s v h ih => simp [get, h, ih]

theorem get_put_other (m : Table) (s k : String) (v : Int) (h : k ≠ s) :
    get (put m s v) k = get m k := by
  fun_induction put m s v with
  | case1 => simp [get, Ne.symm h]
  | case2 => simp [get, Ne.symm h]
  | case3 k' w t s v _ ih => simp [get, ih h]

theorem get_del_same (m : Table) (s : String) : get (del m s) s = 0 := by
  fun_induction del m s with
  | case1 => rfl
  | case2 w t s ih => exact ih
  | case3 k w t s h ih => simp [get, h, ih]

theorem get_del_other (m : Table) (s k : String) (h : k ≠ s) : get (del m s) k = get m k := by
  fun_induction del m s with
  | case1 => rfl
  | case2 w t s ih => simp [get, Ne.symm h, ih h]
  | case3 k' w t s _ ih => simp [get, ih h]

theorem mem_keys_put (m : Table) (s k : String) (v : Int) :
    k ∈ (put m s v).map Prod.fst ↔ k = s ∨ k ∈ m.map Prod.fst := by
  fun_induction put m s v with
  | case1 => simp
  | case2 w t s v => simp
  | case3 k' w t s v h ih => simp only [List.map_cons, List.mem_cons, ih, or_left_comm]

theorem mem_keys_del (m : Table) (s k : String) :
    k ∈ (del m s).map Prod.fst ↔ k ≠ s ∧ k ∈ m.map Prod.fst := by
  fun_induction del m s with
  | case1 => simp
  | case2 w t s ih =>
    rw [ih, List.map_cons, List.mem_cons]
    constructor
    · rintro ⟨hne, hk⟩; exact ⟨hne, .inr hk⟩
    · rintro ⟨hne, hk⟩; exact ⟨hne, hk.resolve_left hne⟩
  | case3 k' w t s h ih =>
    simp only [List.map_cons, List.mem_cons, ih]
    constructor
    · rintro (e | ⟨hne, hk⟩)
      · exact ⟨e ▸ h, .inl e⟩
      · exact ⟨hne, .inr hk⟩
    · rintro ⟨hne, e | hk⟩
      · exact .inl e
      · exact .inr ⟨hne, hk⟩

theorem get_eq_zero_of_not_mem (m : Table) (k : String) (h : k ∉ m.map Prod.fst) : get m k = 0 := by
  fun_induction get m k with
  | case1 => rfl
  | case2 v t s => simp at h
  | case3 k' v t s _ ih => exact ih (fun hm => h (List.mem_cons_of_mem _ hm))

theorem acquire_none_iff (st : State) (src : String) (a mx : Int) :
    acquire st src a mx = none ↔ mx ≤ get st.conns src := by
  unfold acquire; split <;> simp_all

theorem acquire_of_lt {st : State} {src : String} {a mx : Int} (h : get st.conns src < mx) :
    acquire st src a mx = some ⟨put st.conns src (get st.conns src + a), st.total + a⟩ := by
  simp [acquire, Int.not_le.2 h]

theorem release_total (st : State) (src : String) (a : Int) : (release st src a).total = st.total - a := rfl

theorem release_get_same (st : State) (src : String) (a : Int) :
    get (release st src a).conns src = get st.conns src - a := by
  unfold release
  simp only [get_put_same]
  split
  · rw [get_del_same]; omega
  · exact get_put_same _ _ _

theorem release_get_other (st : State) (src k : String) (a : Int) (h : k ≠ src) :
    get (release st src a).conns k = get st.conns k := by
  unfold release
  simp only [get_put_same]
  split
  · rw [get_del_other _ _ _ h, get_put_other _ _ _ _ h]
  · exact get_put_other _ _ _ _ h

theorem release_keys (st : State) (src k : String) (a : Int)
    (h : k ∈ (release st src a).conns.map Prod.fst) :
    (k = src ∧ get st.conns src - a ≠ 0) ∨ (k ≠ src ∧ k ∈ st.conns.map Prod.fst) := by
  unfold release at h
  simp only [get_put_same] at h
  split at h
  · rw [mem_keys_del, mem_keys_put] at h
    right; exact ⟨h.1, h.2.resolve_left h.1⟩
  · rw [mem_keys_put] at h
    by_cases hk : k = src
    · left; exact ⟨hk, by assumption⟩
    · right; exact ⟨hk, h.resolve_left hk⟩

theorem findReq_eq_find? (l : List Req) (id : String) : findReq l id = l.find? (fun r => r.id = id) := by
  induction l with
  | nil => rfl
  | cons a t ih => by_cases h : a.id = id <;> simp [findReq, h, ih]

theorem find_drop_of_split {l₁ l₂ : List Req} {id : String} {r : Req} (h1 : ∀ q ∈ l₁, q.id ≠ id) (h2 : r.id = id) :
    findReq (l₁ ++ r :: l₂) id = some r ∧ dropReq (l₁ ++ r :: l₂) id = l₁ ++ l₂ := by
  induction l₁ with
  | nil => simp [findReq, dropReq, h2]
  | cons a t ih => simpa [findReq, dropReq, h1 a (by simp)] using ih (fun q hq => h1 q (by simp [hq]))

theorem findReq_split {l : List Req} {id : String} {r : Req} (h : findReq l id = some r) :
    ∃ l₁ l₂, l = l₁ ++ r :: l₂ ∧ dropReq l id = l₁ ++ l₂ ∧ (∀ q ∈ l₁, q.id ≠ id) ∧ r.id = id := by
  rw [findReq_eq_find?, List.find?_eq_some_iff_append] at h
  obtain ⟨h2, l₁, l₂, rfl, h1⟩ := h
  have h1 : ∀ q ∈ l₁, q.id ≠ id := fun q hq => by simpa using h1 q hq
  have h2 : r.id = id := by simpa using h2
  exact ⟨l₁, l₂, rfl, (find_drop_of_split h1 h2).2, h1, h2⟩

theorem findReq_eq_none_iff {l : List Req} {id : String} : findReq l id = none ↔ ∀ r ∈ l, r.id ≠ id := by
  rw [findReq_eq_find?]; simp

theorem findReq_some {l : List Req} {id : String} {r : Req} (h : findReq l id = some r) :
    r ∈ l ∧ r.id = id := by
  obtain ⟨l₁, l₂, rfl, _, _, h2⟩ := findReq_split h
  exact ⟨by simp, h2⟩

theorem heldBy_append (l₁ l₂ : List Req) (s : String) : heldBy (l₁ ++ l₂) s = heldBy l₁ s + heldBy l₂ s := by
  induction l₁ with
  | nil => rw [List.nil_append, heldBy, Int.zero_add]
  | cons a t ih => rw [List.cons_append, heldBy, heldBy, ih, Int.add_assoc]

theorem heldAll_append (l₁ l₂ : List Req) : heldAll (l₁ ++ l₂) = heldAll l₁ + heldAll l₂ := by
  induction l₁ with
  | nil => rw [List.nil_append, heldAll, Int.zero_add]
  | cons a t ih => rw [List.cons_append, heldAll, heldAll, ih, Int.add_assoc]

theorem count_append (l₁ l₂ : List Req) (s : String) :
    inflightCount (l₁ ++ l₂) s = inflightCount l₁ s + inflightCount l₂ s := by
  simp [inflightCount, List.filter_append]

theorem count_cons (a : Req) (t : List Req) (s : String) :
    inflightCount (a :: t) s = (if a.src = s then 1 else 0) + inflightCount t s := by
  by_cases hs : a.src = s <;> simp [inflightCount, hs, Nat.add_comm]

theorem heldBy_dropReq {l : List Req} {id : String} {r : Req} (h : findReq l id = some r) (s : String) :
    heldBy (dropReq l id) s = heldBy l s - (if r.src = s then r.amount else 0) := by
  obtain ⟨l₁, l₂, rfl, e, _⟩ := findReq_split h
  rw [e, heldBy_append, heldBy_append, heldBy]; omega

theorem heldAll_dropReq {l : List Req} {id : String} {r : Req} (h : findReq l id = some r) :
    heldAll (dropReq l id) = heldAll l - r.amount := by
  obtain ⟨l₁, l₂, rfl, e, _⟩ := findReq_split h
  rw [e, heldAll_append, heldAll_append, heldAll]; omega

theorem count_dropReq {l : List Req} {id : String} {r : Req} (h : findReq l id = some r) (s : String) :
    inflightCount (dropReq l id) s + (if r.src = s then 1 else 0) = inflightCount l s := by
  obtain ⟨l₁, l₂, rfl, e, _⟩ := findReq_split h
  rw [e, count_append, count_append, count_cons]; omega

theorem count_append_one (l : List Req) (r : Req) (s : String) :
    inflightCount (l ++ [r]) s = inflightCount l s + (if r.src = s then 1 else 0) := by
  rw [count_append, count_cons]; rfl

theorem perm_dropReq {l : List Req} {id : String} {r : Req} (hf : findReq l id = some r) :
    l.Perm (r :: dropReq l id) := by
  obtain ⟨l₁, l₂, rfl, e, _⟩ := findReq_split hf
  rw [e]; exact List.perm_middle

theorem exists_src_of_heldBy_ne_zero (l : List Req) (s : String) (h : heldBy l s ≠ 0) :
    ∃ r ∈ l, r.src = s := by
  induction l with
  | nil => simp [heldBy] at h
  | cons a t ih =>
    by_cases hs : a.src = s
    · exact ⟨a, by simp, hs⟩
    · simp [heldBy, hs] at h
      obtain ⟨r, hr, hr'⟩ := ih h
      exact ⟨r, List.mem_cons_of_mem _ hr, hr'⟩

theorem step_admit {s : Sys} {id src : String} {a : Int} (hf : findReq s.inflight id = none)
    (hlt : get s.st.conns src < s.max) :
    step s (.start id src a) =
      ({ s with st := ⟨put s.st.conns src (get s.st.conns src + a), s.st.total + a⟩,
                inflight := s.inflight ++ [⟨id, src, a⟩] }, .admitted) := by
  simp only [step, hf, acquire_of_lt hlt]

theorem step_reject {s : Sys} {id src : String} {a : Int} (hf : findReq s.inflight id = none)
    (hle : s.max ≤ get s.st.conns src) : step s (.start id src a) = (s, .rejected) := by
  simp only [step, hf, (acquire_none_iff ..).2 hle]

theorem step_dup {s : Sys} {id src : String} {a : Int} {r : Req} (hf : findReq s.inflight id = some r) :
    step s (.start id src a) = (s, .dup) := by
  simp only [step, hf]

theorem step_finish {s : Sys} {id : String} {how : Exit} {r : Req} (hf : findReq s.inflight id = some r) :
    step s (.finish id how) =
      ({ s with st := release s.st r.src r.amount, inflight := dropReq s.inflight id }, .released) := by
  simp only [step, hf]

theorem step_unknown {s : Sys} {id : String} {how : Exit} (hf : findReq s.inflight id = none) :
    step s (.finish id how) = (s, .unknown) := by
  simp only [step, hf]

/-- a step leaves the limiter alone, or is an admission (`step_admit`), or a release (`step_finish`) -/
theorem step_cases (s : Sys) (e : Event) :
    (step s e).1 = s ∨
    (∃ id src a, e = .start id src a ∧ findReq s.inflight id = none ∧ get s.st.conns src < s.max) ∨
    (∃ id how r, e = .finish id how ∧ findReq s.inflight id = some r) := by
  cases e with
  | startErr id => exact .inl rfl
  | start id src a =>
    cases hf : findReq s.inflight id with
    | some r => exact .inl (by rw [step_dup hf])
    | none =>
      by_cases hle : s.max ≤ get s.st.conns src
      · exact .inl (by rw [step_reject hf hle])
      · exact .inr (.inl ⟨id, src, a, rfl, hf, Int.not_le.1 hle⟩)
  | finish id how =>
    cases hf : findReq s.inflight id with
    | none => exact .inl (by rw [step_unknown hf])
    | some r => exact .inr (.inr ⟨id, how, r, rfl, hf⟩)

theorem run_induct {P : Sys → Prop} {s : Sys} (h : List Event) (hs : P s)
    (hstep : ∀ s e, e ∈ h → P s → P (step s e).1) : P (run s h) := by
  induction h generalizing s with
  | nil => exact hs
  | cons e t ih =>
    exact ih (hstep s e (by simp) hs) (fun s e' he' => hstep s e' (List.mem_cons_of_mem _ he'))

theorem step_max (s : Sys) (e : Event) : (step s e).1.max = s.max := by
  rcases step_cases s e with h | ⟨_, _, _, rfl, hf, hlt⟩ | ⟨_, _, _, rfl, hf⟩
  · rw [h]
  · rw [step_admit hf hlt]
  · rw [step_finish hf]

theorem run_max (s : Sys) (h : List Event) : (run s h).max = s.max :=
  run_induct (P := fun s' => s'.max = s.max) h rfl (fun s' e _ hs' => (step_max s' e).trans hs')

/-- the table counts exactly what the requests inside the handler hold -/
structure Inv (s : Sys) : Prop where
  acct : ∀ src, get s.st.conns src = heldBy s.inflight src
  tot : s.st.total = heldAll s.inflight
  keys : ∀ k ∈ s.st.conns.map Prod.fst, ∃ r ∈ s.inflight, r.src = k

theorem Inv.init (mx : Int) : Inv (Sys.init mx) :=
  ⟨fun _ => rfl, rfl, fun _ h => nomatch h⟩

/-- with nobody inside the handler the limiter is in its initial state: the table has no key without a holder -/
theorem Inv.eq_init {s : Sys} (hi : Inv s) (hq : s.inflight = []) : s = Sys.init s.max := by
  obtain ⟨m, ⟨c, t⟩, l⟩ := s
  simp only at hq
  subst hq
  have hc : c = [] := by
    cases c with
    | nil => rfl
    | cons a _ => obtain ⟨r, hr, _⟩ := hi.keys a.1 (by simp); cases hr
  have ht : t = 0 := hi.tot
  subst hc ht
  rfl

theorem Inv.after_step {s : Sys} (hi : Inv s) (e : Event) : Inv (step s e).1 := by
  rcases step_cases s e with h | ⟨id, src, a, rfl, hf, hlt⟩ | ⟨id, how, r, rfl, hf⟩
  · rw [h]; exact hi
  · rw [step_admit hf hlt]
    refine ⟨fun k => ?_, ?_, fun k hk => ?_⟩
    · simp only [heldBy_append, heldBy]
      by_cases hk : k = src
      · subst hk; simp [get_put_same, hi.acct]
      · simp [get_put_other _ _ _ _ hk, hi.acct, Ne.symm hk]
    · simp [heldAll_append, heldAll, hi.tot]
    · rcases (mem_keys_put ..).1 hk with rfl | h
      · exact ⟨⟨id, k, a⟩, by simp, rfl⟩
      · obtain ⟨r, hr, hr'⟩ := hi.keys k h
        exact ⟨r, by simp [hr], hr'⟩
  · rw [step_finish hf]
    have hacct : ∀ k, get (release s.st r.src r.amount).conns k = heldBy (dropReq s.inflight id) k := by
      intro k
      rw [heldBy_dropReq hf]
      by_cases hk : k = r.src
      · subst hk; simp [release_get_same, hi.acct]
      · simp [release_get_other _ _ _ _ hk, hi.acct, Ne.symm hk]
    refine ⟨hacct, ?_, fun k hk => ?_⟩
    · simp [release_total, heldAll_dropReq hf, hi.tot]
    · rcases release_keys _ _ _ _ hk with ⟨rfl, hne⟩ | ⟨hne, hmem⟩
      · apply exists_src_of_heldBy_ne_zero
        rw [← hacct, release_get_same]; exact hne
      · obtain ⟨q, hq, hq'⟩ := hi.keys k hmem
        refine ⟨q, (List.mem_cons.1 ((perm_dropReq hf).mem_iff.1 hq)).resolve_left ?_, hq'⟩
        intro hqr; subst hqr; exact hne hq'.symm

theorem Inv.after_run {s : Sys} (hi : Inv s) (h : List Event) : Inv (run s h) :=
  run_induct h hi (fun _ e _ hi => hi.after_step e)

end ConnLimit
