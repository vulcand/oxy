import OxyModel.Proofs.ConnLimit.Basic

/-! Bound on the number of requests inside the handler; exactness for unit amounts. -/
namespace ConnLimit

def AmountsPos (h : List Event) : Prop := ∀ id src a, Event.start id src a ∈ h → 1 ≤ a

/-- what the built-in extractors yield (C19) -/
def AmountsOne (h : List Event) : Prop := ∀ id src a, Event.start id src a ∈ h → a = 1

theorem count_le_heldBy (l : List Req) (s : String) (hp : ∀ r ∈ l, 1 ≤ r.amount) :
    (inflightCount l s : Int) ≤ heldBy l s := by
  induction l with
  | nil => exact Int.le_refl _
  | cons a t ih =>
    rw [count_cons, heldBy, Int.natCast_add]
    refine Int.add_le_add ?_ (ih fun r hr => hp r (List.mem_cons_of_mem _ hr))
    split
    · exact hp a List.mem_cons_self
    · exact Int.le_refl _

theorem heldBy_eq_count (l : List Req) (s : String) (hp : ∀ r ∈ l, r.amount = 1) :
    heldBy l s = (inflightCount l s : Int) := by
  induction l with
  | nil => rfl
  | cons a t ih =>
    rw [count_cons, heldBy, Int.natCast_add, ih fun r hr => hp r (List.mem_cons_of_mem _ hr)]
    congr 1
    split
    · exact hp a List.mem_cons_self
    · rfl

theorem step_amounts {P : Int → Prop} {s : Sys} (hs : ∀ r ∈ s.inflight, P r.amount) (e : Event)
    (he : ∀ id src a, e = .start id src a → P a) : ∀ r ∈ (step s e).1.inflight, P r.amount := by
  rcases step_cases s e with h | ⟨id, src, a, rfl, hf, hlt⟩ | ⟨id, how, r, rfl, hf⟩
  · rw [h]; exact hs
  · rw [step_admit hf hlt]
    intro r hr
    rcases List.mem_append.1 hr with hr | hr
    · exact hs r hr
    · rw [List.mem_singleton.1 hr]; exact he id src a rfl
  · rw [step_finish hf]
    exact fun q hq => hs q ((perm_dropReq hf).mem_iff.2 (List.mem_cons_of_mem _ hq))

/-- invariant of histories whose amounts are all `≥ 1` -/
structure Safe (s : Sys) : Prop extends Inv s where
  pos : ∀ r ∈ s.inflight, 1 ≤ r.amount
  bound : ∀ src, inflightCount s.inflight src ≤ s.max.toNat

theorem Safe.init (mx : Int) : Safe (Sys.init mx) :=
  { Inv.init mx with pos := (fun _ h => nomatch h), bound := fun _ => Nat.zero_le _ }

theorem Safe.after_step {s : Sys} (hs : Safe s) (e : Event) (he : ∀ id src a, e = .start id src a → 1 ≤ a) :
    Safe (step s e).1 := by
  refine { hs.toInv.after_step e with pos := step_amounts hs.pos e he, bound := ?_ }
  rcases step_cases s e with h | ⟨id, src, a, rfl, hf, hlt⟩ | ⟨id, how, r, rfl, hf⟩
  · rw [h]; exact hs.bound
  · -- admitted below the limit: count ≤ held = table entry < max
    rw [step_admit hf hlt]
    intro k
    have h1 := count_le_heldBy s.inflight src hs.pos
    have h2 := hs.acct src
    have h3 := hs.bound k
    simp only [count_append_one]
    split
    · rename_i hk; subst hk; omega
    · exact h3
  · rw [step_finish hf]
    exact fun k => Nat.le_trans (Nat.le_add_right _ _) (count_dropReq hf k ▸ hs.bound k)

theorem Safe.after_run {s : Sys} (hs : Safe s) (h : List Event) (hp : AmountsPos h) : Safe (run s h) :=
  run_induct h hs (fun _ e he hs => hs.after_step e (fun id src a h => hp id src a (h ▸ he)))

/-- invariant of histories whose amounts are all `1` -/
structure Unit1 (s : Sys) : Prop extends Safe s where
  one : ∀ r ∈ s.inflight, r.amount = 1

theorem Unit1.init (mx : Int) : Unit1 (Sys.init mx) :=
  { Safe.init mx with one := fun _ h => nomatch h }

theorem Unit1.after_step {s : Sys} (hs : Unit1 s) (e : Event) (he : ∀ id src a, e = .start id src a → a = 1) :
    Unit1 (step s e).1 :=
  { hs.toSafe.after_step e (fun id src a h => by rw [he id src a h]; decide) with
    one := step_amounts hs.one e he }

theorem Unit1.after_run {s : Sys} (hs : Unit1 s) (h : List Event) (hp : AmountsOne h) : Unit1 (run s h) :=
  run_induct h hs (fun _ e he hs => hs.after_step e (fun id src a h => hp id src a (h ▸ he)))

theorem Unit1.get_eq_count {s : Sys} (hs : Unit1 s) (src : String) :
    get s.st.conns src = (inflightCount s.inflight src : Int) := by
  rw [hs.acct, heldBy_eq_count _ _ hs.one]

theorem Unit1.start_out {s : Sys} (hs : Unit1 s) (id src : String) (hfresh : findReq s.inflight id = none) :
    (step s (.start id src 1)).2 = (if s.max ≤ (inflightCount s.inflight src : Int) then Out.rejected else Out.admitted) := by
  rw [← hs.get_eq_count]
  split
  · rename_i hc; rw [step_reject hfresh hc]
  · rename_i hc; rw [step_admit hfresh (Int.not_le.1 hc)]

theorem Unit1.admit_all {s : Sys} (hs : Unit1 s) (src : String) (ids : List String)
    (hnd : ids.Nodup) (hfresh : ∀ r ∈ s.inflight, r.id ∉ ids)
    (hroom : ((inflightCount s.inflight src + ids.length : Nat) : Int) ≤ s.max) :
    outs s (ids.map fun id => Event.start id src 1) = List.replicate ids.length Out.admitted := by
  induction ids generalizing s with
  | nil => rfl
  | cons id t ih =>
    have hf : findReq s.inflight id = none :=
      findReq_eq_none_iff.2 (fun r hr heq => hfresh r hr (by simp [heq]))
    rw [List.length_cons] at hroom
    have hlt : get s.st.conns src < s.max := by rw [hs.get_eq_count]; omega
    have hs' := hs.after_step (.start id src 1) (fun _ _ _ h => by cases h; rfl)
    simp only [List.map_cons, outs, List.length_cons, List.replicate_succ]
    rw [step_admit hf hlt] at hs' ⊢
    congr 1
    apply ih hs' (List.nodup_cons.1 hnd).2
    · intro r hr
      rcases List.mem_append.1 hr with hr | hr
      · exact fun hm => hfresh r hr (List.mem_cons_of_mem _ hm)
      · rw [List.mem_singleton.1 hr]; exact (List.nodup_cons.1 hnd).1
    · simp only [count_append_one, if_pos]; omega

/-- `AmountsPos` and `AmountsOne` as `Bool`s: what C04 states its hypotheses with, so that test vectors can decide them -/
def amountsPos (h : List Event) : Bool :=
  h.all fun e => match e with | .start _ _ a => decide (1 ≤ a) | _ => true

def amountsOne (h : List Event) : Bool :=
  h.all fun e => match e with | .start _ _ a => decide (a = 1) | _ => true

theorem amountsPos_spec {h : List Event} (hp : amountsPos h = true) : AmountsPos h :=
  fun _ _ _ hm => by simpa using List.all_eq_true.1 hp _ hm

theorem amountsOne_spec {h : List Event} (hp : amountsOne h = true) : AmountsOne h :=
  fun _ _ _ hm => by simpa using List.all_eq_true.1 hp _ hm

theorem amountsPos_take {h : List Event} (hp : AmountsPos h) (k : Nat) : AmountsPos (h.take k) :=
  fun id src a hm => hp id src a (List.mem_of_mem_take hm)

end ConnLimit
