import OxyModel.Proofs.ConnLimit.Basic

/-! Non-interference of the connection limiter: what one source sees depends only on its own
sub-history (cited by C14). -/
namespace ConnLimit

def mine (src : String) (l : List Req) : List Req := l.filter (fun r => r.src = src)

theorem mine_append (src : String) (l₁ l₂ : List Req) : mine src (l₁ ++ l₂) = mine src l₁ ++ mine src l₂ :=
  List.filter_append ..

theorem mine_cons (src : String) (r : Req) (l : List Req) :
    mine src (r :: l) = if r.src = src then r :: mine src l else mine src l := by
  by_cases h : r.src = src <;> simp [mine, h]

theorem findReq_mine_none {l : List Req} {id : String} (src : String) (h : findReq l id = none) :
    findReq (mine src l) id = none :=
  findReq_eq_none_iff.2 fun r hr => findReq_eq_none_iff.1 h r (List.mem_filter.1 hr).1

theorem mine_split {l : List Req} {id : String} {r : Req} (h : findReq l id = some r) :
    findReq (mine r.src l) id = some r ∧ dropReq (mine r.src l) id = mine r.src (dropReq l id) := by
  obtain ⟨l₁, l₂, rfl, e, h1, h2⟩ := findReq_split h
  rw [e, mine_append, mine_append, mine_cons, if_pos rfl]
  exact find_drop_of_split (fun q hq => h1 q ((List.mem_filter.1 hq).1)) h2

theorem dropReq_mine_other {l : List Req} {id : String} {r : Req} (h : findReq l id = some r)
    (src : String) (hsrc : r.src ≠ src) : mine src (dropReq l id) = mine src l := by
  obtain ⟨l₁, l₂, rfl, e, _⟩ := findReq_split h
  rw [e, mine_append, mine_append, mine_cons, if_neg hsrc]

/-- `s'` is what source `src` can see of `s` -/
structure View (src : String) (s s' : Sys) : Prop where
  max : s'.max = s.max
  cnt : get s'.st.conns src = get s.st.conns src
  reqs : s'.inflight = mine src s.inflight

theorem View.init (src : String) (mx : Int) : View src (Sys.init mx) (Sys.init mx) :=
  ⟨rfl, rfl, rfl⟩

theorem owner_start {s : Sys} {id t src : String} {a : Int} (h : owner s (.start id t a) = some src) :
    findReq s.inflight id = none ∧ t = src := by
  simp only [owner] at h
  cases hf : findReq s.inflight id with
  | some r => simp [hf] at h
  | none => simp [hf] at h; exact ⟨rfl, h⟩

theorem owner_finish {s : Sys} {id src : String} {how : Exit} (h : owner s (.finish id how) = some src) :
    ∃ r, findReq s.inflight id = some r ∧ r.src = src := by
  unfold owner at h
  cases hf : findReq s.inflight id with
  | none => simp [hf] at h
  | some r => simp [hf] at h; exact ⟨r, rfl, h⟩

theorem View.step_owned {src : String} {s s' : Sys} (v : View src s s') {e : Event}
    (ho : owner s e = some src) :
    (step s' e).2 = (step s e).2 ∧ View src (step s e).1 (step s' e).1 := by
  cases e with
  | startErr id => simp [owner] at ho
  | start id t a =>
    obtain ⟨hf, rfl⟩ := owner_start ho
    have hf' : findReq s'.inflight id = none := by rw [v.reqs]; exact findReq_mine_none _ hf
    by_cases hfull : s.max ≤ get s.st.conns t
    · rw [step_reject hf hfull, step_reject hf' (by rw [v.cnt, v.max]; exact hfull)]
      exact ⟨rfl, v⟩
    · rw [step_admit hf (Int.not_le.1 hfull), step_admit hf' (by rw [v.cnt, v.max]; exact Int.not_le.1 hfull)]
      exact ⟨rfl, v.max, by simp [get_put_same, v.cnt], by simp only [v.reqs, mine_append, mine_cons, if_pos]; rfl⟩
  | finish id how =>
    obtain ⟨r, hf, rfl⟩ := owner_finish ho
    rw [step_finish hf, step_finish (v.reqs ▸ (mine_split hf).1)]
    exact ⟨rfl, v.max, by simp [release_get_same, v.cnt], by simp only [v.reqs]; exact (mine_split hf).2⟩

theorem View.step_other {src : String} {s s' : Sys} (v : View src s s') {e : Event}
    (ho : owner s e ≠ some src) : View src (step s e).1 s' := by
  rcases step_cases s e with h | ⟨id, t, a, rfl, hf, hlt⟩ | ⟨id, how, r, rfl, hf⟩
  · rw [h]; exact v
  · rw [step_admit hf hlt]
    have hts : t ≠ src := by intro e; apply ho; simp [owner, hf, e]
    refine ⟨v.max, ?_, ?_⟩
    · rw [v.cnt]; exact (get_put_other _ _ _ _ (Ne.symm hts)).symm
    · simp only [v.reqs, mine_append, mine_cons, if_neg hts]; exact (List.append_nil _).symm
  · rw [step_finish hf]
    have hrs : r.src ≠ src := by intro e; apply ho; simp [owner, hf, e]
    exact ⟨v.max, by rw [v.cnt]; exact (release_get_other _ _ _ _ (Ne.symm hrs)).symm,
      by simp only [v.reqs]; exact (dropReq_mine_other hf src hrs).symm⟩

theorem View.decisions {src : String} {s s' : Sys} (v : View src s s') (h : List Event) :
    decisionsFor src s h = outs s' (project src s h) := by
  induction h generalizing s s' with
  | nil => rfl
  | cons e t ih =>
    unfold decisionsFor project
    by_cases ho : owner s e = some src
    · obtain ⟨h1, h2⟩ := v.step_owned ho
      simp only [ho, if_true, outs, h1]
      rw [ih h2]
    · simp only [ho, if_false]
      exact ih (v.step_other ho)

/-- **Non-interference of the connection limiter**: the decisions taken for `src` in any interleaved history (any mix
    of sources, amounts, exits, protocol misuse) are those a fresh limiter takes on `src`'s own sub-history. -/
theorem conn_noninterference (mx : Int) (src : String) (h : List Event) :
    decisionsFor src (Sys.init mx) h = outs (Sys.init mx) (project src (Sys.init mx) h) :=
  (View.init src mx).decisions h

theorem project_starts (src : String) (s : Sys) (h : List Event) :
    ∀ id t a, Event.start id t a ∈ project src s h → t = src := by
  induction h generalizing s with
  | nil => intro _ _ _ hm; simp [project] at hm
  | cons e t ih =>
    intro id t' a hm
    unfold project at hm
    split at hm
    · rename_i ho
      rcases List.mem_cons.1 hm with rfl | hm
      · exact (owner_start ho).2
      · exact ih _ id t' a hm
    · exact ih _ id t' a hm

end ConnLimit
