import OxyModel.Proofs.ConnLimit.Safety

/-! The layer of rejections in progress (`stepR`): the limiter state under it moves exactly as in
`step`, so every invariant of `step` carries over, whatever is parked in the error handler. -/
namespace ConnLimit

theorem step_rejected_same (s : Sys) (e : Event) (h : (step s e).2 = .rejected) : (step s e).1 = s := by
  rcases step_cases s e with h' | ⟨_, _, _, rfl, hf, hlt⟩ | ⟨_, _, _, rfl, hf⟩
  · exact h'
  · rw [step_admit hf hlt] at h; cases h
  · rw [step_finish hf] at h; cases h

/-- a step of the layer either is the step of the limiter under it, or leaves the limiter alone: a `start` or
`finish` of a parked id, or an arrival that is turned away into the slow error handler -/
theorem stepR_cases (s : SysR) (e : Event) :
    stepR s e = ({ s with base := (step s.base e).1 }, .base (step s.base e).2) ∨
    ((stepR s e).1.base = s.base ∧
      ((stepR s e).2 = .base .dup ∨ (stepR s e).2 = .rejecting ∨ (stepR s e).2 = .rejectedDone)) := by
  cases e with
  | startErr id => exact .inl rfl
  | start id src a =>
    simp only [stepR]
    split
    · exact .inr ⟨rfl, .inl rfl⟩
    · split
      · rename_i hc; exact .inr ⟨step_rejected_same _ _ hc.2, .inr (.inl rfl)⟩
      · exact .inl rfl
  | finish id how =>
    simp only [stepR]
    split
    · exact .inr ⟨rfl, .inr (.inr rfl)⟩
    · exact .inl rfl

/-- the limiter under the layer has run a sub-history: whatever `run` keeps, `runR` keeps -/
theorem runR_base (s : SysR) (h : List Event) : ∃ h', h'.Sublist h ∧ (runR s h).base = run s.base h' := by
  induction h generalizing s with
  | nil => exact ⟨[], .slnil, rfl⟩
  | cons e t ih =>
    obtain ⟨h', hsub, e'⟩ := ih (stepR s e).1
    rcases stepR_cases s e with hc | ⟨hc, _⟩
    · exact ⟨e :: h', hsub.cons_cons e, by rw [runR, e', hc]; rfl⟩
    · exact ⟨h', hsub.cons e, by rw [runR, e', hc]⟩

theorem runR_max (s : SysR) (h : List Event) : (runR s h).base.max = s.base.max := by
  obtain ⟨h', _, e⟩ := runR_base s h
  rw [e, run_max]

theorem Inv.after_runR {s : SysR} (hi : Inv s.base) (h : List Event) : Inv (runR s h).base := by
  obtain ⟨h', _, e⟩ := runR_base s h
  rw [e]; exact hi.after_run h'

theorem Safe.after_runR {s : SysR} (hs : Safe s.base) (h : List Event) (hp : AmountsPos h) :
    Safe (runR s h).base := by
  obtain ⟨h', hsub, e⟩ := runR_base s h
  rw [e]; exact hs.after_run h' (fun id src a hm => hp id src a (hsub.subset hm))

theorem Unit1.after_runR {s : SysR} (hs : Unit1 s.base) (h : List Event) (hp : AmountsOne h) :
    Unit1 (runR s h).base := by
  obtain ⟨h', hsub, e⟩ := runR_base s h
  rw [e]; exact hs.after_run h' (fun id src a hm => hp id src a (hsub.subset hm))

theorem findRej_none_of_not_mem (l : List Rej) (id : String) (h : ∀ r ∈ l, r.id ≠ id) : findRej l id = none := by
  induction l with
  | nil => rfl
  | cons a t ih =>
    rw [findRej, if_neg (h a List.mem_cons_self)]
    exact ih fun r hr => h r (List.mem_cons_of_mem _ hr)

theorem stepR_start {s : SysR} {id src : String} {a : Int} (hr : findRej s.rejecting id = none)
    (hn : (step s.base (.start id src a)).2 ≠ .rejected) :
    stepR s (.start id src a) =
      ({ s with base := (step s.base (.start id src a)).1 }, .base (step s.base (.start id src a)).2) := by
  simp only [stepR, hr, hn, and_false, if_false]

theorem stepR_finish {s : SysR} {id : String} {how : Exit} (hr : findRej s.rejecting id = none) :
    stepR s (.finish id how) =
      ({ s with base := (step s.base (.finish id how)).1 }, .base (step s.base (.finish id how)).2) := by
  simp only [stepR, hr]

/-- decision of the layer on a fresh unit arrival: decided by the number of *admitted* requests of the source alone -/
theorem Unit1.startR_out {s : SysR} (hs : Unit1 s.base) (id src : String)
    (hf : findReq s.base.inflight id = none) (hr : findRej s.rejecting id = none) :
    (stepR s (.start id src 1)).2 =
      (if s.base.max ≤ (inflightCount s.base.inflight src : Int) then
        (if s.slow = true then OutR.rejecting else OutR.base .rejected)
       else OutR.base .admitted) := by
  -- the layer parks an arrival the limiter rejects if the error handler is slow, and passes the limiter's verdict otherwise
  have hR : (stepR s (.start id src 1)).2 =
      if s.slow = true ∧ (step s.base (.start id src 1)).2 = .rejected then .rejecting
      else .base (step s.base (.start id src 1)).2 := by
    simp only [stepR, hr]; split <;> rfl
  rw [hR, hs.start_out id src hf]
  by_cases hc : s.base.max ≤ (inflightCount s.base.inflight src : Int)
  · rw [if_pos hc, if_pos hc]
    by_cases hsl : s.slow = true
    · rw [if_pos ⟨hsl, rfl⟩, if_pos hsl]
    · rw [if_neg fun h => hsl h.1, if_neg hsl]
  · rw [if_neg hc, if_neg hc, if_neg fun h => Out.noConfusion h.2]

/-- a fresh unit arrival is turned away (at once, or into the slow error handler) iff the source is full, admitted iff not -/
theorem Unit1.startR_iff {s : SysR} (hs : Unit1 s.base) (id src : String)
    (hf : findReq s.base.inflight id = none) (hr : findRej s.rejecting id = none) :
    (((stepR s (.start id src 1)).2 = .base .rejected ∨ (stepR s (.start id src 1)).2 = .rejecting) ↔
      s.base.max ≤ (inflightCount s.base.inflight src : Int)) ∧
    ((stepR s (.start id src 1)).2 = .base .admitted ↔ (inflightCount s.base.inflight src : Int) < s.base.max) := by
  rw [hs.startR_out id src hf hr]
  by_cases hc : s.base.max ≤ (inflightCount s.base.inflight src : Int)
  · -- full: parked or not, the arrival is turned away
    have hn : ¬ (inflightCount s.base.inflight src : Int) < s.base.max := Int.not_lt.2 hc
    by_cases hsl : s.slow = true <;> simp [hsl, hc, hn]
  · simp [hc, Int.not_le.1 hc]

theorem outsR_starts {s : SysR} (src : String) (a : Int) (ids : List String)
    (hfr : ∀ r ∈ s.rejecting, r.id ∉ ids)
    (hno : Out.rejected ∉ outs s.base (ids.map fun id => Event.start id src a)) :
    outsR s (ids.map fun id => Event.start id src a)
      = (outs s.base (ids.map fun id => Event.start id src a)).map OutR.base := by
  induction ids generalizing s with
  | nil => rfl
  | cons id t ih =>
    simp only [List.map_cons, outs, List.mem_cons, not_or] at hno
    have hr : findRej s.rejecting id = none :=
      findRej_none_of_not_mem _ _ (fun r hr heq => hfr r hr (by simp [heq]))
    simp only [List.map_cons, outsR, outs, stepR_start hr (Ne.symm hno.1)]
    congr 1
    exact ih (fun r hr hm => hfr r hr (List.mem_cons_of_mem _ hm)) hno.2

theorem Unit1.admit_allR {s : SysR} (hs : Unit1 s.base) (src : String) (ids : List String)
    (hnd : ids.Nodup) (hfresh : ∀ r ∈ s.base.inflight, r.id ∉ ids) (hfreshR : ∀ r ∈ s.rejecting, r.id ∉ ids)
    (hroom : ((inflightCount s.base.inflight src + ids.length : Nat) : Int) ≤ s.base.max) :
    outsR s (ids.map fun id => Event.start id src 1) = List.replicate ids.length (OutR.base .admitted) := by
  have h := hs.admit_all src ids hnd hfresh hroom
  rw [outsR_starts src 1 ids hfreshR (by rw [h]; simp), h, List.map_replicate]

theorem fast_stepR (b : Sys) (e : Event) :
    stepR ⟨b, false, []⟩ e = (⟨(step b e).1, false, []⟩, .base (step b e).2) := by
  cases e <;> simp [stepR, findRej]

theorem fast_runR (mx : Int) (h : List Event) :
    runR (SysR.init mx false) h = ⟨run (Sys.init mx) h, false, []⟩ ∧
    outsR (SysR.init mx false) h = (outs (Sys.init mx) h).map OutR.base := by
  suffices ∀ b : Sys, runR ⟨b, false, []⟩ h = ⟨run b h, false, []⟩ ∧ outsR ⟨b, false, []⟩ h = (outs b h).map OutR.base from
    this (Sys.init mx)
  induction h with
  | nil => intro b; exact ⟨rfl, rfl⟩
  | cons e t ih =>
    intro b
    simp only [runR, outsR, run, outs, fast_stepR, List.map_cons]
    exact ⟨(ih _).1, by rw [(ih _).2]⟩

end ConnLimit
