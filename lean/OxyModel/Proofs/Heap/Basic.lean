import OxyModel.Model.Heap

/-!
# `container/heap` model: lengths, permutations and the heap order

Positions are related by `Child p c` (`c` is `2p+1` or `2p+2`); the heap order `Inv` says `prio p ≤ prio c` for
every such pair below `n`.  Both sift loops move one position `i` along a parent/child edge by a `swap`, and both
keep `Exc h n i`: every pair that avoids `i` is ordered, and so is every grandparent/grandchild pair across `i`.
`up` additionally keeps `ChildGe` (`i ≤` its children) and stops when `ParentLe` (`i ≥` its parent) holds; `down`
keeps `ParentLe` and stops when `ChildGe` holds.  `Exc ∧ ChildGe ∧ ParentLe` is `Inv`.  A loop only rearranges the
positions below `n` (`PermBelow`).  `heap.Remove` is a `swap` to the last position, `sift` (= `down`, then `up` if
`down` did not move) and `dropLast`; `heap.Pop` is `heap.Remove` at `0`.
-/
namespace Heap

theorem prio_congr {h h' : T} {k k' : Nat} (e : h'[k']? = h[k]?) : prio h' k' = prio h k := by
  unfold prio; rw [e]

theorem prio_of_getElem? {h : T} {k : Nat} {x : Item} (e : h[k]? = some x) : prio h k = x.2 := by
  unfold prio; rw [e]; rfl

theorem swap_of_lt (h : T) (i j : Nat) (hi : i < h.length) (hj : j < h.length) :
    swap h i j = (h.set i h[j]).set j h[i] := by
  unfold swap
  rw [List.getElem?_eq_getElem hi, List.getElem?_eq_getElem hj]

theorem swap_of_not (h : T) (i j : Nat) (hij : ¬ (i < h.length ∧ j < h.length)) : swap h i j = h := by
  unfold swap
  split
  · rename_i x y hx hy
    exact absurd ⟨(List.getElem?_eq_some_iff.1 hx).1, (List.getElem?_eq_some_iff.1 hy).1⟩ hij
  · rfl

theorem swap_perm (h : T) (i j : Nat) : (swap h i j).Perm h := by
  by_cases c : i < h.length ∧ j < h.length
  · rw [swap_of_lt h i j c.1 c.2]
    have hi : i < h.toArray.size := by simpa using c.1
    have hj : j < h.toArray.size := by simpa using c.2
    have p := (Array.swap_perm (xs := h.toArray) hi hj).toList
    rw [Array.toList_swap] at p
    simpa using p
  · rw [swap_of_not h i j c]

theorem swap_length (h : T) (i j : Nat) : (swap h i j).length = h.length := (swap_perm h i j).length_eq

theorem getElem?_swap_of_ne (h : T) (i j k : Nat) (hki : k ≠ i) (hkj : k ≠ j) :
    (swap h i j)[k]? = h[k]? := by
  by_cases c : i < h.length ∧ j < h.length
  · rw [swap_of_lt h i j c.1 c.2, List.getElem?_set, if_neg (Ne.symm hkj), List.getElem?_set,
      if_neg (Ne.symm hki)]
  · rw [swap_of_not h i j c]

theorem getElem?_swap_right (h : T) (i j : Nat) (hi : i < h.length) (hj : j < h.length) :
    (swap h i j)[j]? = h[i]? := by
  rw [swap_of_lt h i j hi hj, List.getElem?_set, if_pos rfl, if_pos (by simpa using hj),
    List.getElem?_eq_getElem hi]

theorem getElem?_swap_left (h : T) (i j : Nat) (hi : i < h.length) (hj : j < h.length) :
    (swap h i j)[i]? = h[j]? := by
  by_cases e : i = j
  · subst e; exact getElem?_swap_right h i i hi hi
  · rw [swap_of_lt h i j hi hj, List.getElem?_set, if_neg (Ne.symm e), List.getElem?_set, if_pos rfl,
      if_pos hi, List.getElem?_eq_getElem hj]

theorem swap_self (h : T) (i : Nat) : swap h i i = h := by
  by_cases c : i < h.length
  · apply List.ext_getElem?
    intro k
    by_cases e : k = i
    · subst e; exact getElem?_swap_right h k k c c
    · exact getElem?_swap_of_ne h i i k e e
  · exact swap_of_not h i i (fun hh => c hh.1)

theorem prio_swap_of_ne (h : T) (i j k : Nat) (hki : k ≠ i) (hkj : k ≠ j) : prio (swap h i j) k = prio h k :=
  prio_congr (getElem?_swap_of_ne h i j k hki hkj)

theorem prio_swap (h : T) (i j : Nat) (hi : i < h.length) (hj : j < h.length) :
    prio (swap h i j) i = prio h j ∧ prio (swap h i j) j = prio h i ∧
      ∀ k, k ≠ i → k ≠ j → prio (swap h i j) k = prio h k :=
  ⟨prio_congr (getElem?_swap_left h i j hi hj), prio_congr (getElem?_swap_right h i j hi hj),
   prio_swap_of_ne h i j⟩

theorem prio_append_left (h : T) (x : Item) (k : Nat) (hk : k < h.length) :
    prio (h ++ [x]) k = prio h k := prio_congr (List.getElem?_append_left hk)

theorem prio_append_last (h : T) (x : Item) : prio (h ++ [x]) h.length = x.2 :=
  prio_of_getElem? (by simp)

theorem prio_dropLast (h : T) (k : Nat) (hk : k < h.length - 1) : prio h.dropLast k = prio h k :=
  prio_congr (by rw [List.getElem?_dropLast, if_pos hk])

theorem dropLast_perm (l : T) (x : Item) (hx : l[l.length - 1]? = some x) : (x :: l.dropLast).Perm l := by
  obtain ⟨hlt, e⟩ := List.getElem?_eq_some_iff.1 hx
  have hne : l ≠ [] := by rintro rfl; simp at hlt
  have e2 : l.dropLast ++ [x] = l := by
    rw [← e, ← List.getLast_eq_getElem hne]; exact List.dropLast_concat_getLast hne
  have p := (List.perm_append_singleton x l.dropLast).symm
  rw [e2] at p; exact p

/-- `c` is a child position of `p`.  Outside the four facts that follow (and `downLoop_cases`, which reads the two
children off the model) nothing unfolds it, so no proof of the order does arithmetic with `/ 2`. -/
def Child (p c : Nat) : Prop := c = 2 * p + 1 ∨ c = 2 * p + 2

theorem Child.parent {p c : Nat} (h : Child p c) : (c - 1) / 2 = p := by
  rcases h with rfl | rfl
  · exact Nat.mul_div_cancel_left p (by decide)
  · exact Nat.mul_add_div (by decide) p 1

theorem Child.lt {p c : Nat} (h : Child p c) : p < c := by unfold Child at h; omega

theorem Child.unique {p q c : Nat} (h : Child p c) (h' : Child q c) : p = q := by rw [← h.parent, ← h'.parent]

theorem child_parent {k : Nat} (hk : 0 < k) : Child ((k - 1) / 2) k := by unfold Child; omega

theorem inv_iff {h : T} {n : Nat} : Inv h n ↔ ∀ p c, Child p c → c < n → prio h p ≤ prio h c :=
  ⟨fun hinv _ c hpc hcn => hpc.parent ▸ hinv c (Nat.zero_lt_of_lt hpc.lt) hcn,
   fun hall k hk0 hkn => hall _ k (child_parent hk0) hkn⟩

theorem Inv.congr {h h' : T} {n : Nat} (hinv : Inv h n) (e : ∀ k, k < n → prio h' k = prio h k) :
    Inv h' n :=
  inv_iff.2 fun p c hpc hcn => by
    rw [e c hcn, e p (Nat.lt_trans hpc.lt hcn)]; exact inv_iff.1 hinv p c hpc hcn

theorem Inv.mono {h : T} {n m : Nat} (hinv : Inv h n) (hm : m ≤ n) : Inv h m :=
  fun k hk0 hkm => hinv k hk0 (Nat.lt_of_lt_of_le hkm hm)

theorem Inv.dropLast {h : T} {n : Nat} (hinv : Inv h n) (hn : n ≤ h.length - 1) : Inv h.dropLast n :=
  hinv.congr (fun k hk => prio_dropLast h k (Nat.lt_of_lt_of_le hk hn))

/-- heap on the prefix `n` except at position `i` -/
structure Exc (h : T) (n i : Nat) : Prop where
  off : ∀ p c, Child p c → c < n → p ≠ i → c ≠ i → prio h p ≤ prio h c
  across : ∀ g c, Child g i → Child i c → c < n → prio h g ≤ prio h c

def ChildGe (h : T) (n i : Nat) : Prop := ∀ c, Child i c → c < n → prio h i ≤ prio h c

def ParentLe (h : T) (i : Nat) : Prop := ∀ g, Child g i → prio h g ≤ prio h i

theorem inv_of_exc {h : T} {n i : Nat} (he : Exc h n i) (hc : ChildGe h n i) (hp : ParentLe h i) : Inv h n :=
  inv_iff.2 fun p c hpc hcn => by
    by_cases h1 : c = i
    · subst h1; exact hp p hpc
    · by_cases h2 : p = i
      · subst h2; exact hc c hpc hcn
      · exact he.off p c hpc hcn h2 h1

theorem exc_of_inv {h : T} {n i : Nat} (hinv : Inv h n) (hin : i < n) : Exc h n i :=
  ⟨fun p c hpc hcn _ _ => inv_iff.1 hinv p c hpc hcn,
   fun g c hgi hic hcn => Nat.le_trans (inv_iff.1 hinv g i hgi hin) (inv_iff.1 hinv i c hic hcn)⟩

theorem exc_leaf {h : T} {n : Nat} (hinv : Inv h n) : Exc h (n + 1) n :=
  ⟨fun p c hpc hcn _ hc => inv_iff.1 hinv p c hpc (by omega),
   fun _ _ _ hnc hcn => absurd hnc.lt (by omega)⟩

theorem Exc.congr {h h' : T} {n i : Nat} (he : Exc h n i) (hin : i < n)
    (e : ∀ k, k < n → k ≠ i → prio h' k = prio h k) : Exc h' n i := by
  refine ⟨fun p c hpc hcn hp hc => ?_, fun g c hgi hic hcn => ?_⟩
  · rw [e c hcn hc, e p (Nat.lt_trans hpc.lt hcn) hp]; exact he.off p c hpc hcn hp hc
  · rw [e c hcn (Nat.ne_of_gt hic.lt), e g (Nat.lt_trans hgi.lt hin) (Nat.ne_of_lt hgi.lt)]
    exact he.across g c hgi hic hcn

theorem exc_up_step {h : T} {n p c : Nat} (hpc : Child p c) (hcn : c < n) (hn : n ≤ h.length)
    (he : Exc h n c) (hlt : prio h c < prio h p) :
    Exc (swap h p c) n p ∧ ChildGe (swap h p c) n p := by
  have hp := hpc.lt
  have hcl : c < h.length := Nat.lt_of_lt_of_le hcn hn
  have hpl : p < h.length := Nat.lt_trans hp hcl
  obtain ⟨e1, e2, e3⟩ := prio_swap h p c hpl hcl
  -- after the swap every child of `p` holds at least what `p` held: `c` holds just that, the others were above `p`
  have kids : ∀ d, Child p d → d < n → prio h p ≤ prio (swap h p c) d := fun d hpd hdn => by
    by_cases hdc : d = c
    · subst hdc; rw [e2]; exact Nat.le_refl _
    · rw [e3 d (Nat.ne_of_gt hpd.lt) hdc]; exact he.off p d hpd hdn (Nat.ne_of_lt hp) hdc
  refine ⟨⟨fun q d hqd hdn hq hd => ?_, fun g d hgp hpd hdn => ?_⟩, fun d hpd hdn => ?_⟩
  · by_cases hdc : d = c
    · subst hdc; exact absurd (hqd.unique hpc) hq
    · by_cases hqc : q = c
      · subst hqc; rw [e2, e3 d hd hdc]; exact he.across p d hpc hqd hdn
      · rw [e3 q hq hqc, e3 d hd hdc]; exact he.off q d hqd hdn hqc hdc
  · have hgc : g ≠ c := Nat.ne_of_lt (Nat.lt_trans hgp.lt hp)
    rw [e3 g (Nat.ne_of_lt hgp.lt) hgc]
    exact Nat.le_trans (he.off g p hgp (Nat.lt_trans hp hcn) hgc (Nat.ne_of_lt hp)) (kids d hpd hdn)
  · rw [e1]; exact Nat.le_trans (Nat.le_of_lt hlt) (kids d hpd hdn)

/-- `m` is the child of `i` (within the prefix `n`) that `heap.down` compares with `i` -/
structure MinChild (h : T) (n i m : Nat) : Prop where
  child : Child i m
  lt : m < n
  min : ∀ c, Child i c → c < n → prio h m ≤ prio h c

theorem exc_down_step {h : T} {n p c : Nat} (hm : MinChild h n p c) (hn : n ≤ h.length)
    (he : Exc h n p) (hlt : prio h c < prio h p) :
    Exc (swap h p c) n c ∧ ParentLe (swap h p c) c := by
  obtain ⟨hpc, hcn, hmin⟩ := hm
  have hp := hpc.lt
  have hcl : c < h.length := Nat.lt_of_lt_of_le hcn hn
  have hpl : p < h.length := Nat.lt_trans hp hcl
  obtain ⟨e1, e2, e3⟩ := prio_swap h p c hpl hcl
  refine ⟨⟨fun q d hqd hdn hq hd => ?_, fun g d hgc hcd hdn => ?_⟩, fun g hgc => ?_⟩
  · by_cases hdp : d = p
    · subst hdp; rw [e1, e3 q (Nat.ne_of_lt hqd.lt) hq]; exact he.across q c hqd hpc hcn
    · by_cases hqp : q = p
      · subst hqp; rw [e1, e3 d hdp hd]; exact hmin d hqd hdn
      · rw [e3 q hqp hq, e3 d hdp hd]; exact he.off q d hqd hdn hqp hdp
  · have hdp : d ≠ p := Nat.ne_of_gt (Nat.lt_trans hp hcd.lt)
    rw [← hpc.unique hgc, e1, e3 d hdp (Nat.ne_of_gt hcd.lt)]
    exact he.off c d hcd hdn (Nat.ne_of_gt hp) hdp
  · rw [← hpc.unique hgc, e1, e2]; exact Nat.le_of_lt hlt

/-- `r` is `h` with the positions below `n` rearranged -/
structure PermBelow (n : Nat) (h r : T) : Prop where
  perm : r.Perm h
  frame : ∀ k, n ≤ k → r[k]? = h[k]?

theorem PermBelow.trans {n : Nat} {a b c : T} (h1 : PermBelow n a b) (h2 : PermBelow n b c) : PermBelow n a c :=
  ⟨h2.perm.trans h1.perm, fun k hk => (h2.frame k hk).trans (h1.frame k hk)⟩

theorem up_zero (h : T) : up h 0 = h := by rw [up]; simp

theorem up_pos (h : T) (j : Nat) (hj : 0 < j) :
    up h j = if prio h j < prio h ((j - 1) / 2) then up (swap h ((j - 1) / 2) j) ((j - 1) / 2) else h := by
  rw [up]
  simp [Nat.ne_of_gt hj, less]

theorem up_perm (h : T) (j : Nat) : (up h j).Perm h := by
  fun_induction up h j with
  | case1 h => exact .refl h
  | case2 h j _ _ ih => exact ih.trans (swap_perm h _ j)
  | case3 h => exact .refl h

theorem up_length (h : T) (j : Nat) : (up h j).length = h.length := (up_perm h j).length_eq

/-- `up h j` only touches positions `≤ j` -/
theorem up_frame (h : T) (j k : Nat) (hk : j < k) : (up h j)[k]? = h[k]? := by
  fun_induction up h j with
  | case1 h => rfl
  | case2 h j hj _ ih =>
    have hpk := Nat.lt_trans (child_parent (Nat.pos_of_ne_zero hj)).lt hk
    rw [ih hpk, getElem?_swap_of_ne h _ j k (Nat.ne_of_gt hpk) (Nat.ne_of_gt hk)]
  | case3 h => rfl

/-- if the prefix was a heap except at `j`, whose children are all ≥ `j`, it is a heap after `up`, which stops where
`ParentLe` holds -/
theorem up_spec (n : Nat) (h : T) (j : Nat) (hjn : j < n) (hn : n ≤ h.length) :
    PermBelow n h (up h j) ∧ (Exc h n j → ChildGe h n j → Inv (up h j) n) := by
  refine ⟨⟨up_perm h j, fun k hk => up_frame h j k (Nat.lt_of_lt_of_le hjn hk)⟩, ?_⟩
  fun_induction up h j with
  | case1 h => exact fun he hc => inv_of_exc he hc fun g hg => absurd hg.lt (Nat.not_lt_zero g)
  | case2 h j hj hless ih =>
    intro he _
    have hpj := child_parent (Nat.pos_of_ne_zero hj)
    obtain ⟨e, c⟩ := exc_up_step hpj hjn hn he (of_decide_eq_true hless)
    exact ih (Nat.lt_trans hpj.lt hjn) ((swap_length h _ j).symm ▸ hn) e c
  | case3 h j hj hless =>
    have hpj := child_parent (Nat.pos_of_ne_zero hj)
    exact fun he hc => inv_of_exc he hc fun g hg =>
      hpj.unique hg ▸ Nat.le_of_not_lt (fun hlt => hless (decide_eq_true hlt))

theorem downLoop_base (h : T) (i n : Nat) (h1 : n ≤ 2 * i + 1) : downLoop h i n = (h, i) := by
  rw [downLoop]; simp [h1]

theorem downLoop_cases (h : T) (i n : Nat) :
    (ChildGe h n i ∧ downLoop h i n = (h, i)) ∨
    ∃ m, MinChild h n i m ∧ prio h m < prio h i ∧ downLoop h i n = downLoop (swap h i m) m n := by
  by_cases h1 : n ≤ 2 * i + 1
  · exact .inl ⟨fun c hc hcn => by unfold Child at hc; omega, downLoop_base h i n h1⟩
  obtain ⟨m, hm, e⟩ : ∃ m, MinChild h n i m ∧
      downLoop h i n = if prio h m < prio h i then downLoop (swap h i m) m n else (h, i) := by
    have e := downLoop.eq_1 h i n
    rw [dif_neg (Nat.not_le.2 (Nat.lt_of_not_le h1))] at e
    simp only [less, decide_eq_true_eq] at e
    by_cases c : 2 * i + 2 < n ∧ prio h (2 * i + 2) < prio h (2 * i + 1)
    · rw [if_pos c] at e
      refine ⟨2 * i + 2, ⟨Or.inr rfl, c.1, fun c' hcc _ => ?_⟩, e⟩
      rcases hcc with rfl | rfl
      · exact Nat.le_of_lt c.2
      · exact Nat.le_refl _
    · rw [if_neg c] at e
      refine ⟨2 * i + 1, ⟨Or.inl rfl, Nat.lt_of_not_le h1, fun c' hcc hc' => ?_⟩, e⟩
      rcases hcc with rfl | rfl
      · exact Nat.le_refl _
      · exact Nat.le_of_not_lt fun hlt => c ⟨hc', hlt⟩
  by_cases hlt : prio h m < prio h i
  · exact .inr ⟨m, hm, hlt, by rw [e, if_pos hlt]⟩
  · exact .inl ⟨fun c hc hcn => Nat.le_trans (Nat.le_of_not_lt hlt) (hm.min c hc hcn), by rw [e, if_neg hlt]⟩

/-- induction along the loop: it stops at `i` or goes on from the least child of `i` (which is nearer to `n`) -/
theorem downLoop_induct (n : Nat) {P : T → Nat → Prop}
    (stop : ∀ h i, ChildGe h n i → downLoop h i n = (h, i) → P h i)
    (step : ∀ h i m, MinChild h n i m → prio h m < prio h i → downLoop h i n = downLoop (swap h i m) m n →
      P (swap h i m) m → P h i) (h : T) (i : Nat) : P h i := by
  induction hd : n - i using Nat.strongRecOn generalizing h i with
  | _ d ih =>
    rcases downLoop_cases h i n with ⟨hc, e⟩ | ⟨m, hm, hlt, e⟩
    · exact stop h i hc e
    · have : n - m < n - i := by have := hm.child.lt; have := hm.lt; omega
      exact step h i m hm hlt e (ih (n - m) (hd ▸ this) (swap h i m) m rfl)

theorem downLoop_perm (h : T) (i n : Nat) : (downLoop h i n).1.Perm h := by
  induction h, i using downLoop_induct n with
  | stop h i _ e => rw [e]
  | step h i m _ _ e ih => rw [e]; exact ih.trans (swap_perm h i m)

theorem downLoop_length (h : T) (i n : Nat) : (downLoop h i n).1.length = h.length := (downLoop_perm h i n).length_eq

/-- `downLoop h i n` never touches the positions `≥ n` -/
theorem downLoop_frame (h : T) (i n : Nat) (hin : i < n) (k : Nat) (hk : n ≤ k) : (downLoop h i n).1[k]? = h[k]? := by
  induction h, i using downLoop_induct n with
  | stop h i _ e => rw [e]
  | step h i m hm _ e ih =>
    rw [e, ih hm.lt, getElem?_swap_of_ne h i m k (Nat.ne_of_gt (Nat.lt_of_lt_of_le hin hk))
      (Nat.ne_of_gt (Nat.lt_of_lt_of_le hm.lt hk))]

/-- From an exception at `i`: if the loop moved, or `i` was ≥ its parent anyway, the prefix is a heap; if it did not
move, nothing changed and the children of `i` are ≥ `i` (so `up` may take over). -/
theorem downLoop_spec (n : Nat) (h : T) (i : Nat) (hin : i < n) (hn : n ≤ h.length) :
    PermBelow n h (downLoop h i n).1 ∧ i ≤ (downLoop h i n).2 ∧ (Exc h n i →
      ((i < (downLoop h i n).2 ∨ ParentLe h i) → Inv (downLoop h i n).1 n) ∧
      ((downLoop h i n).2 = i → (downLoop h i n).1 = h ∧ ChildGe h n i)) := by
  refine ⟨⟨downLoop_perm h i n, downLoop_frame h i n hin⟩, ?_⟩
  induction h, i using downLoop_induct n with
  | stop h i hc e =>
    rw [e]
    exact ⟨Nat.le_refl i, fun he =>
      ⟨fun hcond => inv_of_exc he hc (hcond.resolve_left (Nat.lt_irrefl i)), fun _ => ⟨rfl, hc⟩⟩⟩
  | step h i m hm hlt e ih =>
    rw [e]
    have him := hm.child.lt
    obtain ⟨hle, o⟩ := ih hm.lt ((swap_length h i m).symm ▸ hn)
    refine ⟨Nat.le_trans (Nat.le_of_lt him) hle, fun he => ?_⟩
    obtain ⟨a, p⟩ := exc_down_step hm hn he hlt
    exact ⟨fun _ => (o a).1 (Or.inr p), fun hr => absurd (hr ▸ hle) (Nat.not_le_of_lt him)⟩

theorem push_perm (h : T) (x : Item) : (push h x).Perm (x :: h) :=
  (up_spec (h.length + 1) (h ++ [x]) h.length (Nat.lt_succ_self _) (by simp)).1.perm.trans
    (List.perm_append_singleton x h)

theorem push_length (h : T) (x : Item) : (push h x).length = h.length + 1 := (push_perm h x).length_eq

theorem push_inv (h : T) (x : Item) (hinv : Inv h h.length) : Inv (push h x) (h.length + 1) :=
  (up_spec (h.length + 1) (h ++ [x]) h.length (Nat.lt_succ_self _) (by simp)).2
    ((exc_leaf hinv).congr (Nat.lt_succ_self _) fun k hk hne =>
      prio_append_left h x k (by omega))
    (fun c hc hcn => absurd hc.lt (by omega))

/-- `if !down(h, i, n) { up(h, i) }`: how `heap.Remove` (and `heap.Fix`) repair the order at a position whose item
has changed -/
def sift (h : T) (i n : Nat) : T :=
  if i < (downLoop h i n).2 then (downLoop h i n).1 else up (downLoop h i n).1 i

theorem sift_zero (h : T) (n : Nat) : sift h 0 n = (downLoop h 0 n).1 := by
  unfold sift; split
  · rfl
  · exact up_zero _

theorem sift_spec (n : Nat) (h : T) (i : Nat) (hin : i < n) (hn : n ≤ h.length) :
    PermBelow n h (sift h i n) ∧ (Exc h n i → Inv (sift h i n) n) := by
  obtain ⟨bd, hle, od⟩ := downLoop_spec n h i hin hn
  unfold sift
  split
  · rename_i c
    exact ⟨bd, fun he => (od he).1 (Or.inl c)⟩
  · rename_i c
    obtain ⟨bu, ou⟩ := up_spec n (downLoop h i n).1 i hin (bd.perm.length_eq.symm ▸ hn)
    refine ⟨bd.trans bu, fun he => ?_⟩
    -- `downLoop` did not move: it changed nothing and `up` takes over
    obtain ⟨e, hc⟩ := (od he).2 (Nat.le_antisymm (Nat.le_of_not_lt c) hle)
    rw [e] at ou ⊢
    exact ou he hc

theorem removeAt_of_ne (h : T) (i : Nat) (hne : h.length - 1 ≠ i) :
    removeAt h i = (sift (swap h i (h.length - 1)) i (h.length - 1)).dropLast := by
  unfold removeAt down sift
  rw [if_pos hne]
  simp only [gt_iff_lt, decide_eq_true_eq]

theorem removeAt_last (h : T) : removeAt h (h.length - 1) = h.dropLast := by
  unfold removeAt; simp

/-- `d` is the list just before the final `h.Pop()` of `heap.Remove(h, i)`; `i ≤ h.length - 1` admits `Pop` of the
empty heap -/
theorem removeAt_spec (h : T) (i : Nat) (hi : i ≤ h.length - 1) :
    ∃ d : T, removeAt h i = d.dropLast ∧ (Inv h h.length → Inv d (h.length - 1)) ∧
      d.Perm h ∧ d[h.length - 1]? = h[i]? := by
  by_cases hlast : i = h.length - 1
  · subst hlast
    exact ⟨h, removeAt_last h, fun hinv => hinv.mono (Nat.sub_le _ _), .refl _, rfl⟩
  have hin : i < h.length - 1 := by omega
  have hnl : h.length - 1 < h.length := by omega
  have hil := Nat.lt_trans hin hnl
  obtain ⟨b, o⟩ := sift_spec _ (swap h i (h.length - 1)) i hin (by rw [swap_length]; exact Nat.le_of_lt hnl)
  -- the item to remove goes to the last position, which `sift` leaves alone
  refine ⟨_, removeAt_of_ne h i (Ne.symm hlast), fun hinv => o ?_, b.perm.trans (swap_perm h i _),
    (b.frame _ (Nat.le_refl _)).trans (getElem?_swap_right h i _ hil hnl)⟩
  exact (exc_of_inv (hinv.mono (Nat.le_of_lt hnl)) hin).congr hin
    fun k hk hne => (prio_swap h i _ hil hnl).2.2 k hne (Nat.ne_of_lt hk)

theorem removeAt_length (h : T) (i : Nat) (hi : i ≤ h.length - 1) : (removeAt h i).length = h.length - 1 := by
  obtain ⟨d, e, _, hp, _⟩ := removeAt_spec h i hi
  rw [e, List.length_dropLast, hp.length_eq]

theorem removeAt_perm (h : T) (i : Nat) (x : Item) (hx : h[i]? = some x) : (x :: removeAt h i).Perm h := by
  obtain ⟨d, e, _, hp, hlast⟩ := removeAt_spec h i (Nat.le_sub_one_of_lt (List.getElem?_eq_some_iff.1 hx).1)
  rw [e]
  exact (dropLast_perm d x (by rw [hp.length_eq, hlast, hx])).trans hp

theorem removeAt_inv (h : T) (i : Nat) (hi : i ≤ h.length - 1) (hinv : Inv h h.length) :
    Inv (removeAt h i) (h.length - 1) := by
  obtain ⟨d, e, hd, hp, _⟩ := removeAt_spec h i hi
  rw [e]
  exact (hd hinv).dropLast (by rw [hp.length_eq]; exact Nat.le_refl _)

theorem pop_eq_removeAt (h : T) : pop h = removeAt h 0 := by
  unfold pop down
  by_cases c : h.length - 1 = 0
  · have e := removeAt_last h
    rw [c] at e
    rw [e, c, downLoop_base _ _ _ (Nat.zero_le _), swap_self]
  · rw [removeAt_of_ne h 0 c, sift_zero]

theorem pop_length (h : T) : (pop h).length = h.length - 1 :=
  pop_eq_removeAt h ▸ removeAt_length h 0 (Nat.zero_le _)

theorem pop_perm (h : T) (x : Item) (hx : top h = some x) : (x :: pop h).Perm h :=
  pop_eq_removeAt h ▸ removeAt_perm h 0 x hx

theorem pop_inv (h : T) (hinv : Inv h h.length) : Inv (pop h) (h.length - 1) :=
  pop_eq_removeAt h ▸ removeAt_inv h 0 (Nat.zero_le _) hinv

theorem removeKey_inv (h : T) (key : String) (hinv : Inv h h.length) :
    Inv (removeKey h key) (removeKey h key).length := by
  unfold removeKey
  split
  · rename_i c
    rw [removeAt_length h _ (Nat.le_sub_one_of_lt c)]
    exact removeAt_inv h _ (Nat.le_sub_one_of_lt c) hinv
  · exact hinv

theorem update_inv (h : T) (key : String) (p : Nat) (hinv : Inv h h.length) :
    Inv (update h key p) (update h key p).length := by
  unfold update
  rw [push_length]
  exact push_inv _ _ (removeKey_inv h key hinv)

theorem top_min (h : T) (hinv : Inv h h.length) (k : Nat) (hk : k < h.length) : prio h 0 ≤ prio h k := by
  induction k using Nat.strongRecOn with
  | _ k ih =>
    by_cases c : k = 0
    · subst c; exact Nat.le_refl _
    · have hc := child_parent (Nat.pos_of_ne_zero c)
      exact Nat.le_trans (ih _ hc.lt (Nat.lt_trans hc.lt hk)) (inv_iff.1 hinv _ k hc hk)

theorem top_le_all (h : T) (hinv : Inv h h.length) (x : Item) (hx : top h = some x) :
    ∀ y ∈ h, x.2 ≤ y.2 := by
  intro y hy
  obtain ⟨k, hk⟩ := List.mem_iff_getElem?.1 hy
  have hkl : k < h.length := (List.getElem?_eq_some_iff.1 hk).1
  have a := top_min h hinv k hkl
  rw [prio_of_getElem? hk, prio_of_getElem? (show h[0]? = some x from hx)] at a
  exact a

end Heap
