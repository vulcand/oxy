import OxyModel.Proofs.Sticky.Strings

/-! `net/url`'s escaping: what `shouldEscape` leaves alone, whatever the mode; `unescape` undoes percent-escaping;
what an escaped string consists of. -/
namespace Sticky

/-- every punctuation character some mode of `shouldEscape` leaves alone -/
def punct : List Char :=
  ['!', '$', '&', '\'', '(', ')', '*', '+', ',', ';', '=', ':', '[', ']', '<', '>', '"', '-', '_', '.', '~', '/', '?', '@']

theorem shouldEscape_alnum {c : Char} (h : (isAlpha c || isDigit c) = true) (mode : Enc) : shouldEscape c mode = false := by
  unfold shouldEscape; exact if_pos h

theorem not_escaped {c : Char} {mode : Enc} (h : shouldEscape c mode = false) :
    (isAlpha c || isDigit c) = true ∨ c ∈ punct := by
  by_cases ha : (isAlpha c || isDigit c) = true
  · exact Or.inl ha
  -- otherwise every `contains` test of `shouldEscape` fails on a character outside `punct`, and the answer is `true`
  refine Or.inr (Classical.byContradiction fun hn => ?_)
  simp only [punct, List.mem_cons, List.not_mem_nil, or_false, not_or] at hn
  simp [shouldEscape, ha, hn] at h

theorem not_escaped_ind {P : Char → Prop} {mode : Enc}
    (hal : ∀ c, (isAlpha c || isDigit c) = true → P c)
    (hp : ∀ d ∈ punct, shouldEscape d mode = false → P d)
    {c : Char} (h : shouldEscape c mode = false) : P c :=
  (not_escaped h).elim (hal c) fun m => hp c m h

theorem not_escaped_plain {c : Char} {mode : Enc} {seps : List Char} (hs : ∀ d ∈ seps, shouldEscape d mode = true)
    (h : shouldEscape c mode = false) : Plain seps c := by
  have hctl : ∀ d ∈ punct, isCTL d = false := by decide
  refine ⟨fun m => ?_, not_escaped_ind (fun _ ha => ?_) (fun d hd _ => hctl d hd) h⟩
  · rw [hs c m] at h; cases h
  · exact (alnum_plain (seps := []) ha (by simp)).2

theorem unhex_hexDigit : ∀ d, d < 16 → unhex (hexDigit d) = d := by decide +kernel

theorem ishex_hexDigit : ∀ d, d < 16 → ishex (hexDigit d) = true := by decide +kernel

theorem hexDigit_alnum : ∀ d, d < 16 → (isAlpha (hexDigit d) || isDigit (hexDigit d)) = true := by decide +kernel

theorem byte_of_nibbles (c : Char) (h : c.toNat < 256) :
    Char.ofNat (unhex (hexDigit (c.toNat / 16)) * 16 + unhex (hexDigit (c.toNat % 16))) = c := by
  rw [unhex_hexDigit _ (by omega), unhex_hexDigit _ (by omega), Nat.div_add_mod']
  exact Char.ofNat_toNat c

theorem unescape_cons (mode : Enc) (c : Char) (rest : Str) (hc : c ≠ '%') :
    unescape mode (c :: rest) =
      if (mode == .host || mode == .zone) && c.toNat < 0x80 && shouldEscape c mode then none
      else (unescape mode rest).map (c :: ·) := by
  -- the equations Lean derives for `unescape` go by the shape of `rest`
  rcases rest with _ | ⟨a, _ | ⟨b, r⟩⟩ <;> simp only [unescape, if_neg hc]

theorem unescape_pct (mode : Enc) (a b : Char) (rest : Str) (hm : (mode == .host || mode == .zone) = false)
    (ha : ishex a = true) (hb : ishex b = true) :
    unescape mode ('%' :: a :: b :: rest) =
      (unescape mode rest).map (Char.ofNat (unhex a * 16 + unhex b) :: ·) := by
  obtain ⟨h1, h2⟩ := Bool.or_eq_false_iff.mp hm
  rw [unescape.eq_2]; simp [ha, hb, h1, h2]

theorem unescape_id (mode : Enc) (s : Str) (h : ∀ c ∈ s, c ≠ '%' ∧ shouldEscape c mode = false) :
    unescape mode s = some s := by
  induction s with
  | nil => rfl
  | cons c t ih =>
    rw [unescape_cons mode c t (h c (by simp)).1, (h c (by simp)).2, ih fun x hx => h x (by simp [hx])]
    simp

/-- for any percent-escaping that escapes `%` itself: `escape` and the driver's `esc` are instances -/
theorem unescape_flatMap (mode : Enc) (hm : (mode == .host || mode == .zone) = false) {esc? : Char → Bool}
    (hpct : esc? '%' = true) (p : Str) (hb : Bytes p) :
    unescape mode (p.flatMap fun c => if esc? c then escByte c else [c]) = some p := by
  induction p with
  | nil => rfl
  | cons c t ih =>
    have iht := ih fun x hx => hb x (by simp [hx])
    have hc := hb c (by simp)
    rw [List.flatMap_cons]
    generalize List.flatMap _ t = r at iht ⊢
    cases he : esc? c with
    | true =>
      simp only [if_true, escByte, List.cons_append, List.nil_append]
      rw [unescape_pct mode _ _ _ hm (ishex_hexDigit _ (by omega)) (ishex_hexDigit _ (by omega)),
        byte_of_nibbles c hc, iht]; rfl
    | false =>
      simp only [Bool.false_eq_true, if_false, List.cons_append, List.nil_append]
      rw [unescape_cons mode c _ (ne_of_class hpct he).symm, hm, iht]; rfl

theorem flatMap_escByte_ind {P : Char → Prop} {esc? : Char → Bool} (hpct : P '%') (hhex : ∀ d, d < 16 → P (hexDigit d))
    (hkeep : ∀ c, esc? c = false → P c) {s : Str} (hb : Bytes s) :
    ∀ x ∈ s.flatMap fun c => if esc? c then escByte c else [c], P x := by
  intro x hx
  obtain ⟨c, hc, hx⟩ := List.mem_flatMap.mp hx
  have hlt := hb c hc
  cases he : esc? c with
  | true =>
    simp only [he, if_true, escByte, List.mem_cons, List.not_mem_nil, or_false] at hx
    rcases hx with rfl | rfl | rfl
    · exact hpct
    · exact hhex _ (by omega)
    · exact hhex _ (by omega)
  | false =>
    simp only [he, Bool.false_eq_true, if_false, List.mem_cons, List.not_mem_nil, or_false] at hx
    exact hx ▸ hkeep c he

theorem unescape_escape (mode : Enc) (hm : (mode == .host || mode == .zone) = false) (p : Str) (hb : Bytes p) :
    unescape mode (escape mode p) = some p :=
  unescape_flatMap mode hm (by cases mode <;> decide) p hb

theorem escape_ind {P : Char → Prop} {mode : Enc} (hpct : P '%') (hkeep : ∀ c, shouldEscape c mode = false → P c)
    {s : Str} (hb : Bytes s) : ∀ x ∈ escape mode s, P x :=
  flatMap_escByte_ind hpct (fun d hd => hkeep _ (shouldEscape_alnum (hexDigit_alnum d hd) mode)) hkeep hb

theorem escape_plain {mode : Enc} {seps : List Char} (hpct : Plain seps '%') (hs : ∀ d ∈ seps, shouldEscape d mode = true)
    {s : Str} (hb : Bytes s) : ∀ x ∈ escape mode s, Plain seps x :=
  escape_ind hpct (fun _ => not_escaped_plain hs) hb

theorem escape_cons (mode : Enc) (c : Char) (s : Str) :
    escape mode (c :: s) = (if shouldEscape c mode then escByte c else [c]) ++ escape mode s := by
  simp [escape]

theorem escape_id (mode : Enc) (s : Str) (h : ∀ c ∈ s, shouldEscape c mode = false) : escape mode s = s := by
  induction s with
  | nil => rfl
  | cons c t ih =>
    rw [escape_cons, h c (by simp), ih fun x hx => h x (by simp [hx])]; rfl

end Sticky
