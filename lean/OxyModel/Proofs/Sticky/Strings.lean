import OxyModel.Proofs.Sticky.Spec

/-! `strings.Cut` / `LastIndex` / `Split` / `Index` on a string written as `a ++ c :: b`, characters by their code
(letters, digits, control bytes), and the digits of `decimal`. -/
namespace Sticky

theorem takeWhile_dropWhile_ne {c : Char} {a b : Str} (ha : c ∉ a) (hb : b = [] ∨ b.head? = some c) :
    (a ++ b).takeWhile (· != c) = a ∧ (a ++ b).dropWhile (· != c) = b := by
  have hne : ∀ x ∈ a, (x != c) = true := fun x hx => by simpa using fun e : x = c => ha (e ▸ hx)
  rw [List.takeWhile_append_of_pos hne, List.dropWhile_append_of_pos hne]
  rcases b with _ | ⟨x, t⟩
  · simp
  · have hx : x = c := by simpa using hb
    simp [hx]

theorem cut_append_cons (c : Char) (a b : Str) (h : c ∉ a) : cut c (a ++ c :: b) = (a, b, true) := by
  have := takeWhile_dropWhile_ne (b := c :: b) h (Or.inr rfl)
  rw [cut, this.1, this.2]

theorem cut_not_mem (c : Char) (s : Str) (h : c ∉ s) : cut c s = (s, [], false) := by
  have := takeWhile_dropWhile_ne (b := []) h (Or.inl rfl)
  rw [List.append_nil] at this
  rw [cut, this.2]

theorem cut_true (c : Char) (s : Str) (h : (cut c s).2.2 = true) : s = (cut c s).1 ++ c :: (cut c s).2.1 := by
  unfold cut at h ⊢
  cases hd : s.dropWhile (· != c) with
  | nil => rw [hd] at h; cases h
  | cons x t =>
    have hx := List.head?_dropWhile_not (· != c) s
    rw [hd] at hx
    obtain rfl : x = c := by simpa using hx
    simp only
    rw [← hd]; exact List.takeWhile_append_dropWhile.symm

theorem cutLast_append_cons (c : Char) (a b : Str) (h : c ∉ b) : cutLast c (a ++ c :: b) = some (a, b) := by
  have := takeWhile_dropWhile_ne (a := b.reverse) (b := c :: a.reverse) (by simpa using h) (Or.inr rfl)
  rw [cutLast, show (a ++ c :: b).reverse = b.reverse ++ c :: a.reverse by simp, this.1, this.2]
  simp

theorem cutLast_not_mem (c : Char) (s : Str) (h : c ∉ s) : cutLast c s = none := by
  have := takeWhile_dropWhile_ne (a := s.reverse) (b := []) (by simpa using h) (Or.inl rfl)
  rw [List.append_nil] at this
  rw [cutLast, this.2]

theorem splitOn_not_mem (c : Char) (s : Str) (h : c ∉ s) : splitOn c s = [s] := by
  induction s with
  | nil => rfl
  | cons x t ih =>
    have hx : x ≠ c := fun e => h (by simp [e])
    have ht : c ∉ t := fun m => h (by simp [m])
    simp [splitOn, hx, ih ht]

theorem splitAtSub_none (c : Char) (pat s : Str) (h : c ∉ s) : splitAtSub (c :: pat) s = none := by
  induction s with
  | nil => rfl
  | cons x t ih =>
    have hx : c ≠ x := fun e => h (by simp [e])
    have hp : ((c :: pat).isPrefixOf (x :: t)) = false := by simp [List.isPrefixOf, hx]
    rw [splitAtSub, hp, ih fun m => h (by simp [m])]; rfl

theorem containsCTL_eq (s : Str) : containsCTL s = s.any isCTL := rfl

theorem char_le_iff (a b : Char) : a ≤ b ↔ a.toNat ≤ b.toNat := by
  rw [Char.le_def]; exact UInt32.le_iff_toNat_le

theorem isDigit_iff {c : Char} : isDigit c = true ↔ 48 ≤ c.toNat ∧ c.toNat ≤ 57 := by
  simp only [isDigit, Bool.and_eq_true, decide_eq_true_eq, char_le_iff, Char.reduceToNat]

theorem alnum_iff {c : Char} : (isAlpha c || isDigit c) = true ↔
    (97 ≤ c.toNat ∧ c.toNat ≤ 122) ∨ (65 ≤ c.toNat ∧ c.toNat ≤ 90) ∨ (48 ≤ c.toNat ∧ c.toNat ≤ 57) := by
  simp only [isAlpha, isDigit, Bool.or_eq_true, Bool.and_eq_true, decide_eq_true_eq, char_le_iff, Char.reduceToNat,
    or_assoc]

/-- none of the separators `seps`, and no control byte -/
abbrev Plain (seps : List Char) (c : Char) : Prop := c ∉ seps ∧ isCTL c = false

theorem Plain.mono {seps seps' : List Char} {c : Char} (h : Plain seps c) (hs : ∀ d ∈ seps', d ∈ seps) :
    Plain seps' c :=
  ⟨fun m => h.1 (hs c m), h.2⟩

theorem Plain.ne {seps : List Char} {c d : Char} (h : Plain seps c) (hd : d ∈ seps) : c ≠ d :=
  fun e => h.1 (e ▸ hd)

theorem not_mem_of_plain {seps : List Char} {l : Str} (h : ∀ c ∈ l, Plain seps c) {d : Char} (hd : d ∈ seps) :
    d ∉ l :=
  fun m => (h d m).ne hd rfl

theorem alnum_plain {c : Char} (h : (isAlpha c || isDigit c) = true) {seps : List Char}
    (hs : ∀ d ∈ seps, (isAlpha d || isDigit d) = false) : Plain seps c := by
  refine ⟨fun m => (by rw [hs c m] at h; cases h), ?_⟩
  have := alnum_iff.mp h
  simp only [isCTL, Bool.or_eq_false_iff, decide_eq_false_iff_not, beq_eq_false_iff_ne]; omega

theorem ne_of_class {p : Char → Bool} {c d : Char} (h : p c = true) (hd : p d = false) : c ≠ d :=
  fun e => by rw [e, hd] at h; cases h

theorem decimal_digits (n : Nat) : ∀ c ∈ decimal n, c.isDigit = true :=
  fun _ hc => Nat.isDigit_of_mem_toDigits (by decide) (by decide) hc

theorem decimal_nat (n : Nat) : ∀ c ∈ decimal n, 48 ≤ c.toNat ∧ c.toNat ≤ 57 := by
  intro c hc
  have h := decimal_digits n c hc
  simp only [Char.isDigit, Bool.and_eq_true, decide_eq_true_eq] at h
  exact ⟨UInt32.le_iff_toNat_le.mp h.1, UInt32.le_iff_toNat_le.mp h.2⟩

theorem not_mem_decimal (n : Nat) {c : Char} (h : c.toNat < 48 ∨ 57 < c.toNat) : c ∉ decimal n :=
  fun m => by have := decimal_nat n c m; omega

theorem parseInt64_decimal (n : Nat) (hn : n < 2 ^ 63) : parseInt64 (decimal n) = some (n : Int) := by
  have h1 : (decimal n).head? ≠ some '-' := fun h => not_mem_decimal n (by decide) (List.mem_of_head? h)
  have h2 : (decimal n).head? ≠ some '+' := fun h => not_mem_decimal n (by decide) (List.mem_of_head? h)
  have hne : decimal n ≠ [] := Nat.toDigits_ne_nil
  have hall : (decimal n).all Char.isDigit = true := List.all_eq_true.mpr (decimal_digits n)
  have hval : Nat.ofDigitChars 10 (decimal n) 0 = n := Nat.ofDigitChars_ten_toDigits
  simp [parseInt64, h1, h2, hne, hall, hval, hn]

theorem decimal_inj (a b : Nat) (h : decimal a = decimal b) : a = b := by
  have ha : Nat.ofDigitChars 10 (decimal a) 0 = a := Nat.ofDigitChars_ten_toDigits
  have hb : Nat.ofDigitChars 10 (decimal b) 0 = b := Nat.ofDigitChars_ten_toDigits
  rw [h] at ha; omega

end Sticky
