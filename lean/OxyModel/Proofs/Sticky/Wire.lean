import OxyModel.Proofs.Sticky.Strings

/-! The cookie wire: what `Request.Cookie` reads back from the pair `http.SetCookie` wrote. -/
namespace Sticky

theorem dropWhile_head {p : Char → Bool} : ∀ (l : Str), (∀ c, l.head? = some c → p c = false) → l.dropWhile p = l
  | [], _ => rfl
  | x :: t, h => by rw [List.dropWhile_cons]; simp [h x rfl]

theorem trimString_id (l : Str) (h1 : ∀ c, l.head? = some c → isASCIISpace c = false)
    (h2 : ∀ c, l.getLast? = some c → isASCIISpace c = false) : trimString l = l := by
  unfold trimString
  rw [dropWhile_head l h1, dropWhile_head l.reverse (by simpa using h2)]
  simp

theorem not_space_of_class {p : Char → Bool} {c : Char} (h : p c = true)
    (hp : ∀ d ∈ [' ', '\t', '\n', '\r'], p d = false) : isASCIISpace c = false := by
  cases hs : isASCIISpace c with
  | false => rfl
  | true =>
    have hm : c ∈ [' ', '\t', '\n', '\r'] := by simpa [isASCIISpace, or_assoc] using hs
    rw [hp c hm] at h; cases h

theorem valid_not_space {c : Char} (h : validCookieValueByte c = true) (hsp : c ≠ ' ') : isASCIISpace c = false :=
  not_space_of_class (p := fun c => validCookieValueByte c && c != ' ') (by simp [h, hsp]) (by decide)

/-- `hw2`: the line does not end in white space; its last character is that of `=w`, the `=` itself for an empty value -/
theorem readCookie_pair (name w : Str) (hn : isCookieNameValid name = true) (hw1 : ';' ∉ w)
    (hw2 : ∀ c, ('=' :: w).getLast? = some c → isASCIISpace c = false) :
    readCookie name (echoLine name w) = parseCookieValue w := by
  have hn' := hn
  simp only [isCookieNameValid, Bool.and_eq_true, bne_iff_ne, ne_eq, List.all_eq_true] at hn'
  obtain ⟨hne, htok⟩ := hn'
  have hsemi : ';' ∉ name := fun m => ne_of_class (htok _ m) (by decide +kernel) rfl
  have heq : '=' ∉ name := fun m => ne_of_class (htok _ m) (by decide +kernel) rfl
  have hsp : ∀ c ∈ name, isASCIISpace c = false := fun c m => not_space_of_class (htok c m) (by decide +kernel)
  have hnameTrim : trimString name = name :=
    trimString_id name (fun c hc => hsp c (List.mem_of_head? hc)) (fun c hc => hsp c (List.mem_of_getLast? hc))
  have hL : trimString (echoLine name w) = echoLine name w := by
    apply trimString_id
    · intro c hc
      cases name with
      | nil => exact absurd rfl hne
      | cons x t =>
        simp only [echoLine, List.cons_append, List.head?_cons, Option.some.injEq] at hc
        subst hc; exact hsp x (by simp)
    · intro c hc
      unfold echoLine at hc
      rw [List.getLast?_append] at hc
      cases hl : ('=' :: w).getLast? with
      | none => simp at hl
      | some d =>
        rw [hl] at hc
        simp only [Option.some_or, Option.some.injEq] at hc
        subst hc; exact hw2 d hl
  have hsplit : splitOn ';' (echoLine name w) = [echoLine name w] := by
    apply splitOn_not_mem
    unfold echoLine
    simp only [List.mem_append, List.mem_cons, not_or]
    exact ⟨hsemi, by decide, hw1⟩
  have hcut : cut '=' (echoLine name w) = (name, w, true) := cut_append_cons '=' name w heq
  have hLne : echoLine name w ≠ [] := by unfold echoLine; simp
  unfold readCookie
  rw [hL, hsplit]
  simp only [List.findSome?_cons, List.findSome?_nil, hL, hLne, if_false, hcut, hnameTrim, hn, Bool.not_true,
    Bool.false_eq_true, bne_self_eq_false]
  cases parseCookieValue w <;> rfl

theorem sanitize_spec (v : Str) :
    parseCookieValue (sanitizeCookieValue v) = some (v.filter validCookieValueByte) ∧
    ';' ∉ sanitizeCookieValue v ∧
    ∀ c, ('=' :: sanitizeCookieValue v).getLast? = some c → isASCIISpace c = false := by
  have hv : ∀ c ∈ v.filter validCookieValueByte, validCookieValueByte c = true := fun c hc => (List.mem_filter.mp hc).2
  unfold sanitizeCookieValue
  simp only
  generalize v.filter validCookieValueByte = v' at hv ⊢
  have hall : v'.all validCookieValueByte = true := List.all_eq_true.mpr hv
  have hsemi : ';' ∉ v' := fun m => ne_of_class (hv _ m) (by decide) rfl
  split
  · next h => subst h; exact ⟨rfl, by simp, fun c hc => by simp at hc; subst hc; decide⟩
  · next hne =>
    split
    · -- quoted
      refine ⟨?_, by simpa using hsemi, fun c hc => ?_⟩
      · have h3 : ('"' :: (v' ++ ['"'])).getLast? = some '"' := List.getLast?_concat (l := '"' :: v')
        simp [parseCookieValue, h3, hall]
      · rw [show '=' :: ('"' :: v' ++ ['"']) = ('=' :: '"' :: v') ++ ['"'] from rfl, List.getLast?_concat] at hc
        cases hc; decide
    · next hany =>
      refine ⟨?_, hsemi, fun c hc => ?_⟩
      · -- unquoted: a valid byte is no `"`, so nothing is stripped
        have hh : v'.head? ≠ some '"' := fun hq => ne_of_class (hv _ (List.mem_of_head? hq)) (by decide) rfl
        simp [parseCookieValue, hh, hall]
      · -- the last byte is valid and no space, since there is no space at all
        have hmem : c ∈ v' := by
          cases v' with
          | nil => exact absurd rfl hne
          | cons x t => rw [List.getLast?_cons_cons] at hc; exact List.mem_of_getLast? hc
        exact valid_not_space (hv c hmem) fun e => hany (List.any_eq_true.mpr ⟨c, hmem, by simp [e]⟩)

/-- **wire lemma**: a client that echoes the `name=value` pair of the `Set-Cookie` line makes
    `Request.Cookie(name)` return the minted value minus the bytes `sanitizeCookieValue` drops -/
theorem readCookie_echo (name v : Str) (hn : isCookieNameValid name = true) :
    readCookie name (echoLine name (sanitizeCookieValue v)) = some (v.filter validCookieValueByte) := by
  obtain ⟨hparse, hsemi, hlast⟩ := sanitize_spec v
  rw [readCookie_pair name _ hn hsemi hlast, hparse]

theorem getBackend_echo (E : Env) (now : Nat) {ss : Session} (hname : isCookieNameValid ss.name = true) (urls : List URL)
    {x w : Str} (hw : setCookieWire ss.name x = some w) :
    getBackend E now ss (some (echoLine ss.name w)) urls = find E now ss.codec (x.filter validCookieValueByte) urls := by
  simp only [setCookieWire, hname, if_true, Option.some.injEq] at hw
  subst hw
  simp only [getBackend, readCookie_echo ss.name x hname]

end Sticky
