import OxyModel.Proofs.Sticky.Codec

/-! The driver's symbolic AEAD (`symCipher`, cookie string = protocol token) satisfies `Cipher.Ideal`. -/
namespace Sticky

theorem unesc_cons (c : Char) (rest : Str) (hc : c ≠ '%') : unesc (c :: rest) = (unesc rest).map (c :: ·) := by
  rcases rest with _ | ⟨a, _ | ⟨b, r⟩⟩ <;> simp only [unesc, if_neg hc]

/-- `unesc` is `unescape` in a mode without host checks -/
theorem unesc_eq_unescape : ∀ s : Str, unesc s = unescape .path s
  | [] => rfl
  | c :: rest => by
    by_cases hc : c = '%'
    · subst hc
      match rest with
      | [] => rfl
      | [_] => rfl
      | a :: b :: r => rw [unesc, unescape, unesc_eq_unescape r]; rfl
    · rw [unescape_cons .path c rest hc, unesc_cons c rest hc, unesc_eq_unescape rest]; rfl

theorem esc_eq (m : Str) : esc m = m.flatMap fun c => if !tokKeep c then escByte c else [c] := by
  unfold esc
  congr 1; funext c
  cases tokKeep c <;> rfl

theorem unesc_esc (m : Str) (hb : Bytes m) : unesc (esc m) = some m := by
  rw [unesc_eq_unescape, esc_eq]
  exact unescape_flatMap .path (by decide) (by decide) m hb

/-- the per-character test of `cookieSafe` -/
def safeChar (c : Char) : Bool := validCookieValueByte c && c != ' ' && c != ','

theorem cookieSafe_eq (v : Str) : cookieSafe v = v.all safeChar := rfl

theorem safe_alnum {c : Char} (h : (isAlpha c || isDigit c) = true) : safeChar c = true := by
  have hr := alnum_iff.mp h
  have hp : Plain ['"', ';', '\\', ' ', ','] c := alnum_plain h (by decide)
  simp only [safeChar, validCookieValueByte, Bool.and_eq_true, decide_eq_true_eq, bne_iff_ne, and_assoc]
  show 0x20 ≤ c.toNat ∧ c.toNat < 0x7f ∧ c ≠ '"' ∧ c ≠ ';' ∧ c ≠ '\\' ∧ c ≠ ' ' ∧ c ≠ ','
  exact ⟨by omega, by omega, hp.ne (by simp), hp.ne (by simp), hp.ne (by simp), hp.ne (by simp), hp.ne (by simp)⟩

theorem tokKeep_safe {c : Char} (h : tokKeep c = true) : safeChar c = true := by
  simp only [tokKeep, Bool.or_eq_true, List.contains_iff_mem] at h
  rcases h with h | h
  · exact safe_alnum (by simpa using h)
  · exact (by decide +kernel : ∀ d ∈ ['-', '.', '_', '~', ':', '/', '@', '?', '=', '&', '[', ']'], safeChar d = true) c h

theorem esc_safe (m : Str) (hb : Bytes m) : (esc m).all safeChar = true := by
  rw [List.all_eq_true, esc_eq]
  exact flatMap_escByte_ind (by decide) (fun d hd => safe_alnum (hexDigit_alnum d hd))
    (fun c hk => tokKeep_safe (by simpa using hk)) hb

theorem decimal_safe (n : Nat) : (decimal n).all safeChar = true :=
  List.all_eq_true.mpr fun c hc => safe_alnum (by simp [isDigit_iff.mpr (decimal_nat n c hc)])

theorem symCipher_unbox (k : Nat) (v : Str) :
    symCipher.unbox k v = if aesTag.isPrefixOf v then
      (let c := cut '.' (v.drop 4)
       if c.2.2 && c.1 = decimal k then
         match unesc c.2.1 with
         | some m => if esc m = c.2.1 then some m else none
         | none => none
       else none) else none := rfl

theorem symCipher_box (k n : Nat) (m : Str) : symCipher.box k n m = aesTag ++ decimal k ++ '.' :: esc m := rfl

theorem symCipher_open_token (k k' : Nat) (body : Str) :
    symCipher.unbox k' (aesTag ++ decimal k ++ '.' :: body) =
      if k = k' then (match unesc body with
        | some m => if esc m = body then some m else none
        | none => none) else none := by
  rw [symCipher_unbox]
  have hp : aesTag.isPrefixOf (aesTag ++ decimal k ++ '.' :: body) = true := by
    rw [List.append_assoc]; simp [aesTag]
  have hd : (aesTag ++ decimal k ++ '.' :: body).drop 4 = decimal k ++ '.' :: body := by
    rw [List.append_assoc]; rfl
  rw [hp, hd, cut_append_cons '.' _ _ (not_mem_decimal k (by decide))]
  by_cases hk : k = k'
  · subst hk; simp
  · have : decimal k ≠ decimal k' := fun e => hk (decimal_inj _ _ e)
    simp [hk, this]

theorem symCipher_token {k : Nat} {v m : Str} (h : symCipher.unbox k v = some m) :
    ∃ body, v = aesTag ++ decimal k ++ '.' :: body := by
  rw [symCipher_unbox] at h
  split at h
  · next hp =>
    simp only at h
    split at h
    · next hc =>
      simp only [Bool.and_eq_true, decide_eq_true_eq] at hc
      obtain ⟨t, rfl⟩ := List.isPrefixOf_iff_prefix.mp hp
      exact ⟨_, by rw [List.append_assoc, ← hc.2]; exact congrArg _ (cut_true '.' t hc.1)⟩
    · cases h
  · cases h

/-- the symbolic cipher of the driver is an ideal AEAD in the sense of the theorems -/
theorem symCipher_ideal : symCipher.Ideal where
  unbox_box := by
    intro k n m hb
    rw [symCipher_box, symCipher_open_token, if_pos rfl, unesc_esc m hb]; simp
  authentic := by
    intro k v m h
    obtain ⟨body, rfl⟩ := symCipher_token h
    rw [symCipher_open_token, if_pos rfl] at h
    -- the body is the escaped plaintext, so `v` is the very token `box` makes
    have hb : body = esc m := by
      split at h
      · split at h
        · next he => cases h; exact he.symm
        · cases h
      · cases h
    exact ⟨0, fun k' => by rw [hb]; rfl⟩
  key_sep := by
    intro k k' n m hk
    rw [symCipher_box, symCipher_open_token, if_neg hk]
  safe := by
    intro k n m hb
    rw [symCipher_box, cookieSafe_eq, List.all_append, List.all_append, decimal_safe, List.all_cons, esc_safe m hb]
    decide

end Sticky
