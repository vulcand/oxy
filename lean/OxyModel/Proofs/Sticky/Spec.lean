import OxyModel.Model.Sticky

/-! The words the C11 statements are written in: the round trip `url.Parse ∘ URL.String`, and the class `Abs` of server
URLs for which it is proved. -/
namespace Sticky

/-- the per-character test of `stringContainsCTLByte` -/
def isCTL (c : Char) : Bool := c.toNat < 0x20 || c.toNat == 0x7f

/-- `url.Parse ∘ URL.String` preserves what `sameURL` compares -/
def RoundTrip (u : URL) : Prop := (parse (render u)).map URL.key = some u.key

instance (u : URL) : Decidable (RoundTrip u) := by unfold RoundTrip; infer_instance

/-- after the first letter of a scheme: lower-case letters, digits, `+`, `-`, `.` -/
def schemeChar (c : Char) : Bool := ('a' ≤ c && c ≤ 'z') || isDigit c || c == '+' || c == '-' || c == '.'
/-- in a registered name: letters, digits, `.`, `-` -/
def hostChar (c : Char) : Bool := isAlpha c || isDigit c || c == '.' || c == '-'

/-- inside the brackets of an IP literal: hex digits, `:`, `.` (no zone) -/
def litChar (c : Char) : Bool := hostChar c || c == ':'

def PortOK (port : Str) : Prop := port = [] ∨ ∃ ds, port = ':' :: ds ∧ ds.all isDigit = true

/-- `name[:port]` with `name` of letters, digits, `.`, `-`; or `[literal][:port]` -/
def HostOK (h : Str) : Prop :=
  ∃ core port, h = core ++ port ∧ PortOK port ∧
    ((core ≠ [] ∧ core.all hostChar = true) ∨ (∃ lit, core = '[' :: lit ++ [']'] ∧ lit.all litChar = true))

/-- `*Userinfo`: user name and password are byte strings -/
def UserOK : Option (Str × Option Str) → Prop
  | none => True
  | some (n, none) => Bytes n
  | some (n, some p) => Bytes n ∧ Bytes p

/-- the path of `u` and its optional `RawPath` hint are consistent and rooted -/
def PathOK (u : URL) : Prop :=
  (u.rawPath = [] ∧ (u.path = [] ∨ u.path.head? = some '/') ∧ Bytes u.path) ∨
  (u.rawPath ≠ [] ∧ validEncoded .path u.rawPath = true ∧ unescape .path u.rawPath = some u.path ∧
    u.rawPath.head? = some '/')

/-- `scheme://[userinfo@]host[:port][/path][?query]` — the shape of a server URL:
    lower-case scheme; any user name / password bytes; reg-name or bracketed IP-literal host, numeric port;
    ANY path bytes (with or without a consistent `RawPath`); any query without `#` and control bytes; no fragment -/
structure Abs (u : URL) : Prop where
  scheme : ∃ c t, u.scheme = c :: t ∧ ('a' ≤ c ∧ c ≤ 'z') ∧ t.all schemeChar = true
  user : UserOK u.user
  host : HostOK u.host
  path : PathOK u
  query : ∀ c ∈ u.rawQuery, c ≠ '#' ∧ isCTL c = false
  noOpaq : u.opaq = []
  noOmit : u.omitHost = false
  noFrag : u.fragment = []

end Sticky
