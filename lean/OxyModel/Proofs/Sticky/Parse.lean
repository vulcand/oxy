import OxyModel.Proofs.Sticky.Strings

/-! `parseNoFrag` in stages: scheme, query split, hierarchical part.  Each stage gets the few facts the
proofs need, so that nothing downstream unfolds the whole parser. -/
namespace Sticky

/-- the query split of `parse`: `(rest, RawQuery, ForceQuery)` -/
def splitQuery (rest0 : Str) : Str × Str × Bool :=
  if rest0.getLast? = some '?' && rest0.count '?' == 1 then (rest0.dropLast, [], true)
  else let c := cut '?' rest0; (c.1, c.2.1, false)

/-- `parse` after scheme and query have been split off into `u0` -/
def parseHier (u0 : URL) (rest : Str) : Option URL :=
  if rest.head? != some '/' && u0.scheme != [] then some { u0 with opaq := rest }
  else if rest.head? != some '/' && (cut '/' rest).1.contains ':' then none
  else if (u0.scheme != [] || !(['/', '/', '/'].isPrefixOf rest)) && ['/', '/'].isPrefixOf rest then
    match parseAuthority ((rest.drop 2).takeWhile (· != '/')) with
    | none => none
    | some (user, host) => setPath { u0 with user := user, host := host } ((rest.drop 2).dropWhile (· != '/'))
  else if u0.scheme != [] && rest.head? = some '/' then setPath { u0 with omitHost := true } rest
  else setPath u0 rest

theorem parseNoFrag_eq (raw : Str) : parseNoFrag raw =
    if containsCTL raw then none
    else if raw = ['*'] then some { path := ['*'] }
    else (getScheme raw).bind fun x =>
      let q := splitQuery x.2
      parseHier { scheme := x.1.map toLowerC, rawQuery := q.2.1, forceQuery := q.2.2 } q.1 := by
  unfold parseNoFrag
  cases getScheme raw <;> rfl

theorem getSchemeGo_cons {raw : Str} {c : Char} (hc : c ≠ ':') (rest acc : Str) :
    getSchemeGo raw (c :: rest) acc =
      if isAlpha c || (isDigit c || c == '+' || c == '-' || c == '.') && acc != [] then getSchemeGo raw rest (c :: acc)
      else some ([], raw) := by
  rw [getSchemeGo]
  by_cases ha : isAlpha c = true
  · rw [if_pos ha, ha, Bool.true_or, if_pos rfl]
  · -- not a letter: a digit or one of `+-.` is taken unless it comes first; anything else (but `:`) ends the scan
    by_cases hd : (isDigit c || c == '+' || c == '-' || c == '.') = true
    · cases acc <;> simp [ha, hd]
    · simp [ha, hd, hc]

theorem getSchemeGo_no_colon (raw : Str) : ∀ (rest acc : Str), ':' ∉ rest → getSchemeGo raw rest acc = some ([], raw)
  | [], _, _ => rfl
  | c :: t, acc, h => by
    rw [getSchemeGo_cons (fun e => h (by simp [e]))]
    split
    · exact getSchemeGo_no_colon raw t _ fun m => h (by simp [m])
    · rfl

theorem setPath_eq {u : URL} {p path : Str} (h : unescape .path p = some path) :
    setPath u p = some { u with path := path, rawPath := if p = escape .path path then [] else p } := by
  rw [setPath, h]

theorem setPath_scheme {u p : URL} {r : Str} (h : setPath u r = some p) : p.scheme = u.scheme := by
  unfold setPath at h
  split at h
  · cases h
  · cases h; rfl

theorem parseHier_scheme {u0 p : URL} {rest : Str} (h : parseHier u0 rest = some p) : p.scheme = u0.scheme := by
  unfold parseHier at h
  split at h
  · cases h; rfl
  split at h
  · cases h
  split at h
  · split at h
    · cases h
    · exact (setPath_scheme h :)
  split at h
  · exact (setPath_scheme h :)
  · exact setPath_scheme h

theorem parseNoFrag_scheme {w : Str} {p : URL} (h : parseNoFrag w = some p) :
    ∃ x, getScheme w = some x ∧ p.scheme = x.1.map toLowerC := by
  rw [parseNoFrag_eq] at h
  split at h
  · cases h
  split at h
  · next e => cases h; subst e; exact ⟨_, rfl, rfl⟩
  · cases hg : getScheme w with
    | none => rw [hg] at h; cases h
    | some x => rw [hg] at h; exact ⟨x, rfl, parseHier_scheme h⟩

theorem parse_no_fragment {s : Str} (h : '#' ∉ s) : parse s = parseNoFrag s := by
  rw [parse, cut_not_mem '#' s h]
  cases parseNoFrag s <;> rfl

theorem parse_scheme {v : Str} {p : URL} (hp : parse v = some p) :
    ∃ x, getScheme (cut '#' v).1 = some x ∧ p.scheme = x.1.map toLowerC := by
  unfold parse at hp
  cases hn : parseNoFrag (cut '#' v).1 with
  | none => simp [hn] at hp
  | some q =>
    have hq := parseNoFrag_scheme hn
    simp only [hn] at hp
    split at hp
    · cases hp; exact hq
    · unfold setFragment at hp
      split at hp
      · cases hp
      · cases hp; exact hq

theorem parse_scheme_nil (v : Str) (p : URL) (hc : ':' ∉ v) (hp : parse v = some p) : p.scheme = [] := by
  obtain ⟨x, hx, e⟩ := parse_scheme hp
  have hc1 : ':' ∉ (cut '#' v).1 := by
    unfold cut
    split
    · exact hc
    · exact fun m => hc ((List.takeWhile_sublist _).subset m)
  rw [getScheme, getSchemeGo_no_colon _ _ _ hc1] at hx
  cases hx; exact e

/-- `tail` is the `?query` that `String()` appends, or nothing -/
theorem splitQuery_tail {rest tail : Str} (hrest : '?' ∉ rest) (htail : tail = [] ∨ tail.head? = some '?') :
    splitQuery (rest ++ tail) = (rest, tail.drop 1, tail == ['?']) := by
  unfold splitQuery
  rcases tail with _ | ⟨x, q⟩
  · have : rest.getLast? ≠ some '?' := fun h => hrest (List.mem_of_getLast? h)
    simp [this, cut_not_mem '?' rest hrest]
  obtain rfl : x = '?' := by simpa using htail
  have hcnt : (rest ++ '?' :: q).count '?' = 1 + q.count '?' := by
    rw [List.count_append, List.count_eq_zero_of_not_mem hrest, List.count_cons_self]; omega
  cases q with
  | nil => simp [hcnt]
  | cons x xs =>
    -- a `?` at the very end would be a second one
    have hlast : (rest ++ '?' :: x :: xs).getLast? = some '?' → (rest ++ '?' :: x :: xs).count '?' ≠ 1 := by
      rw [List.getLast?_append, List.getLast?_cons_cons, hcnt]
      intro hl
      have hl : (x :: xs).getLast? = some '?' := by
        cases hg : (x :: xs).getLast? with
        | none => simp at hg
        | some y => rwa [hg] at hl
      have := List.count_pos_iff.mpr (List.mem_of_getLast? hl)
      omega
    rw [if_neg (by simpa using hlast), cut_append_cons '?' rest _ hrest]
    simp

theorem parseHier_authority {u0 : URL} (hs : u0.scheme ≠ []) {a path : Str} (ha : '/' ∉ a)
    (hp : path = [] ∨ path.head? = some '/') :
    parseHier u0 ('/' :: '/' :: (a ++ path)) =
      (parseAuthority a).bind fun x => setPath { u0 with user := x.1, host := x.2 } path := by
  have hcut := takeWhile_dropWhile_ne ha hp
  have hs' : (u0.scheme != []) = true := by simpa using hs
  simp only [parseHier, List.head?_cons, hs', bne_self_eq_false, Bool.false_and, Bool.false_eq_true, if_false, Bool.true_or,
    List.isPrefixOf_cons_cons_self, List.isPrefixOf_nil_left, Bool.and_self, if_true, List.drop_succ_cons, List.drop_zero,
    hcut.1, hcut.2]
  cases parseAuthority a <;> rfl

end Sticky
