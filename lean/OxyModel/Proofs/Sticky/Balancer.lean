import OxyModel.Model.Sticky

/-! The balancer behind a sticky session: `UpsertServer` / `RemoveServer` keep the keys of the pool pairwise distinct;
`ServeHTTP` either sticks to the server the cookie names or takes one step of the round-robin iterator. -/
namespace Sticky

/-- the keys of `Servers()` -/
def keysOf (l : List Srv) : List Key := (l.map (·.url)).map URL.key

theorem keys_urls (lb : LB) : lb.urls.map URL.key = keysOf lb.srvs := rfl

theorem keysOf_cons (s : Srv) (t : List Srv) : keysOf (s :: t) = s.url.key :: keysOf t := rfl

theorem keysOf_upsertL (u : URL) (w : Option Nat) :
    ∀ l : List Srv, keysOf (upsertL u w l) = if u.key ∈ keysOf l then keysOf l else keysOf l ++ [u.key]
  | [] => rfl
  | s :: t => by
    rw [upsertL, keysOf_cons]
    by_cases hk : s.url.key = u.key
    · rw [if_pos hk, if_pos (by simp [hk])]; rfl
    · rw [if_neg hk, keysOf_cons, keysOf_upsertL u w t]
      by_cases hm : u.key ∈ keysOf t
      · simp [hm]
      · simp [hm, Ne.symm hk]

theorem nodup_upsertL (u : URL) (w : Option Nat) (l : List Srv) (h : (keysOf l).Nodup) :
    (keysOf (upsertL u w l)).Nodup := by
  rw [keysOf_upsertL]
  split
  · exact h
  · next hn =>
    refine List.nodup_append.mpr ⟨h, by simp, fun a ha b hb e => hn ?_⟩
    rwa [← List.mem_singleton.mp hb, ← e]

theorem sublist_removeL (k : Key) : ∀ (l l' : List Srv), removeL k l = some l' → l'.Sublist l
  | [], _, h => by cases h
  | s :: t, l', h => by
    unfold removeL at h
    by_cases hk : s.url.key = k
    · rw [if_pos hk] at h; cases h; exact List.sublist_cons_self s t
    · rw [if_neg hk] at h
      obtain ⟨t', hr, rfl⟩ := Option.map_eq_some_iff.mp h
      exact (sublist_removeL k t t' hr).cons_cons s

theorem nodup_removeL (k : Key) (l l' : List Srv) (h : removeL k l = some l') (hn : (keysOf l).Nodup) :
    (keysOf l').Nodup :=
  List.Pairwise.sublist (((sublist_removeL k l l' h).map _).map _) hn

section
variable {E : Env} {now : Nat} {ss : Session} {lb : LB} {hdr : Option Str} {u : URL}

theorem serve_stuck (h : getBackend E now ss hdr lb.urls = some u) : serve E now ss lb hdr = (lb, .served u none) := by
  simp only [serve, h]

theorem serve_balanced (h : getBackend E now ss hdr lb.urls = none) :
    serve E now ss lb hdr = ({ lb with it := (RR.next lb.ws lb.it).2 },
      match (RR.next lb.ws lb.it).1 with
      | .sel i =>
        match lb.urls[i]? with
        | some u => .served u (setCookieWire ss.name (get E now ss.codec u))
        | none => .rejected .outOfFuel
      | e => .rejected e) := by
  simp only [serve, h, LB.nextServer]
  cases (RR.next lb.ws lb.it).1 with
  | sel i => cases hu : lb.urls[i]? <;> simp only [hu]
  | _ => rfl

theorem served_cases {set : Option Str} (h : (serve E now ss lb hdr).2 = .served u set) :
    (getBackend E now ss hdr lb.urls = some u ∧ set = none) ∨
    (∃ i : Nat, lb.urls[i]? = some u ∧ set = setCookieWire ss.name (get E now ss.codec u)) := by
  cases hb : getBackend E now ss hdr lb.urls with
  | some x =>
    rw [serve_stuck hb] at h
    cases h; exact Or.inl ⟨rfl, rfl⟩
  | none =>
    rw [serve_balanced hb] at h
    right
    split at h
    · next i _ =>
      split at h
      · next x hx => cases h; exact ⟨i, hx, rfl⟩
      · cases h
    · cases h

end

end Sticky
