import OxyModel.Proofs.Sticky.Escape
import OxyModel.Proofs.Sticky.Parse

/-! `url.Parse(u.String())` gives back scheme, host and path, for the absolute URLs `Abs` (Spec.lean): what `String()` writes
for scheme, host, userinfo and path is free of the separators that follow it, and each part parses back to itself. -/
namespace Sticky

theorem schemeChar_cases {c : Char} (h : schemeChar c = true) :
    (97 ≤ c.toNat ∧ c.toNat ≤ 122) ∨ (48 ≤ c.toNat ∧ c.toNat ≤ 57) ∨ c ∈ ['+', '-', '.'] := by
  simpa only [schemeChar, isDigit, Bool.or_eq_true, Bool.and_eq_true, decide_eq_true_eq, beq_iff_eq, char_le_iff,
    Char.reduceToNat, List.mem_cons, List.not_mem_nil, or_false, or_assoc] using h

theorem plain_schemeChar {c : Char} (h : schemeChar c = true) : Plain ['#'] c := by
  rcases schemeChar_cases h with h | h | h
  · exact alnum_plain (alnum_iff.mpr (Or.inl h)) (by decide)
  · exact alnum_plain (alnum_iff.mpr (Or.inr (Or.inr h))) (by decide)
  · exact (by decide : ∀ d ∈ ['+', '-', '.'], Plain ['#'] d) c h

theorem getSchemeGo_scheme (raw : Str) (t rest acc : Str) (ht : t.all schemeChar = true) (hacc : acc ≠ []) :
    getSchemeGo raw (t ++ ':' :: rest) acc = some (acc.reverse ++ t, rest) := by
  induction t generalizing acc with
  | nil => simp [getSchemeGo, isAlpha, isDigit, hacc]
  | cons c t ih =>
    obtain ⟨hc, ht'⟩ : schemeChar c = true ∧ t.all schemeChar = true := by simpa using ht
    -- a lower-case letter is a letter; the other scheme characters are allowed once `acc` is not empty
    have hstep : (isAlpha c || (isDigit c || c == '+' || c == '-' || c == '.') && acc != []) = true := by
      have hne : (acc != []) = true := by simpa using hacc
      rw [hne, Bool.and_true]
      by_cases hl : 'a' ≤ c ∧ c ≤ 'z'
      · simp [isAlpha, hl]
      · have : (isDigit c || c == '+' || c == '-' || c == '.') = true := by simpa [schemeChar, hl] using hc
        rw [this, Bool.or_true]
    rw [List.cons_append, getSchemeGo_cons (ne_of_class hc (by decide)), if_pos hstep, ih (c :: acc) ht' (by simp)]
    simp

theorem toLowerC_schemeChar {c : Char} (h : schemeChar c = true) : toLowerC c = c := by
  have hn : ¬('A' ≤ c ∧ c ≤ 'Z') := by
    simp only [char_le_iff, Char.reduceToNat]
    rcases schemeChar_cases h with h | h | h
    · omega
    · omega
    · exact (by decide : ∀ d ∈ ['+', '-', '.'], ¬(65 ≤ d.toNat ∧ d.toNat ≤ 90)) c h
  simp [toLowerC, hn]

theorem scheme_ok {sch : Str} (h : ∃ c t, sch = c :: t ∧ ('a' ≤ c ∧ c ≤ 'z') ∧ t.all schemeChar = true) (rest : Str) :
    sch.all schemeChar = true ∧ getScheme (sch ++ ':' :: rest) = some (sch, rest) ∧ sch.map toLowerC = sch := by
  obtain ⟨c0, t, rfl, hc0, ht⟩ := h
  have ha : isAlpha c0 = true := by simp [isAlpha, hc0]
  have hall : (c0 :: t).all schemeChar = true := by simp [schemeChar, hc0, ht]
  refine ⟨hall, ?_, ?_⟩
  · rw [getScheme, List.cons_append, getSchemeGo, if_pos ha, getSchemeGo_scheme _ t rest [c0] ht (by simp)]
    rfl
  · exact (List.map_congr_left fun c hc => toLowerC_schemeChar (List.all_eq_true.mp hall c hc)).trans (List.map_id _)

theorem host_punct : ∀ c ∈ ['.', '-', ':', '[', ']'], shouldEscape c .host = false := by decide +kernel

theorem litChar_not_escaped {c : Char} (h : litChar c = true) : shouldEscape c .host = false := by
  simp only [litChar, hostChar, Bool.or_eq_true, beq_iff_eq] at h
  rcases h with ((h | rfl) | rfl) | rfl
  · exact shouldEscape_alnum (by simpa using h) .host
  · exact host_punct _ (by simp)
  · exact host_punct _ (by simp)
  · exact host_punct _ (by simp)

theorem port_chars {port : Str} (hp : PortOK port) : ∀ c ∈ port, c = ':' ∨ isDigit c = true := by
  rcases hp with rfl | ⟨ds, rfl, hd⟩
  · intro c hc; cases hc
  · intro c hc
    rcases List.mem_cons.mp hc with e | h
    · exact Or.inl e
    · exact Or.inr (List.all_eq_true.mp hd c h)

theorem host_not_escaped {h : Str} (hh : HostOK h) : ∀ c ∈ h, shouldEscape c .host = false := by
  obtain ⟨core, port, rfl, hp, hc⟩ := hh
  intro c hm
  rcases List.mem_append.mp hm with hm | hm
  · rcases hc with ⟨_, hn⟩ | ⟨lit, rfl, hl⟩
    · exact litChar_not_escaped (by rw [litChar, List.all_eq_true.mp hn c hm]; rfl)
    · simp only [List.cons_append, List.mem_cons, List.mem_append, List.not_mem_nil, or_false] at hm
      rcases hm with rfl | hm | rfl
      · exact host_punct _ (by simp)
      · exact litChar_not_escaped (List.all_eq_true.mp hl c hm)
      · exact host_punct _ (by simp)
  · rcases port_chars hp c hm with rfl | h
    · exact host_punct _ (by simp)
    · exact shouldEscape_alnum (by simp [h]) .host

theorem host_plain {h : Str} (hh : HostOK h) : ∀ c ∈ h, Plain ['#', '?', '/', '@', '%'] c :=
  fun c hc => not_escaped_plain (by decide +kernel) (host_not_escaped hh c hc)

theorem hostOK_ne_nil {h : Str} (hh : HostOK h) : h ≠ [] := by
  obtain ⟨core, port, e, _, hc⟩ := hh
  subst e
  rcases hc with ⟨hne, _⟩ | ⟨lit, e, _⟩
  · cases core with | nil => exact absurd rfl hne | cons _ _ => simp
  · subst e; simp

theorem validOptionalPort_ok {port : Str} (hp : PortOK port) : validOptionalPort port = true := by
  rcases hp with hp | ⟨ds, hp, hd⟩
  · subst hp; rfl
  · subst hp; simp [validOptionalPort, hd]

theorem parseHost_ok {h : Str} (hh : HostOK h) : parseHost h = some h := by
  have hpl := host_plain hh
  have hun : unescape .host h = some h :=
    unescape_id .host _ fun c hc => ⟨(hpl c hc).ne (by simp), host_not_escaped hh c hc⟩
  obtain ⟨core, port, e, hp, hc⟩ := hh
  subst e
  unfold parseHost
  rcases hc with ⟨hne, hn⟩ | ⟨lit, e, hl⟩
  · -- reg-name
    have hhead : (core ++ port).head? ≠ some '[' := by
      cases core with
      | nil => exact absurd rfl hne
      | cons x t =>
        simp only [List.cons_append, List.head?_cons, ne_eq, Option.some.injEq]
        exact ne_of_class (List.all_eq_true.mp hn x (by simp)) (by decide)
    have hcolon : ':' ∉ core := fun m => ne_of_class (List.all_eq_true.mp hn _ m) (by decide) rfl
    rw [if_neg hhead]
    rcases hp with hp | ⟨ds, hp', hd⟩
    · subst hp
      rw [List.append_nil] at hun ⊢
      rw [cutLast_not_mem ':' core hcolon]; exact hun
    · subst hp'
      have hds : ':' ∉ ds := fun m => ne_of_class (List.all_eq_true.mp hd _ m) (by decide) rfl
      rw [cutLast_append_cons ':' core ds hds]
      simp only [validOptionalPort, beq_self_eq_true, hd, Bool.and_self, Bool.not_true, Bool.false_eq_true, if_false]
      exact hun
  · -- bracketed literal
    subst e
    have hshape : ('[' :: lit ++ [']']) ++ port = ('[' :: lit) ++ ']' :: port := by simp
    have hrb : ']' ∉ port := fun m => (port_chars hp _ m).elim (by decide) (by decide)
    rw [hshape] at hun hpl ⊢
    have hpct : '%' ∉ '[' :: lit := fun m => not_mem_of_plain hpl (by simp) (List.mem_append_left _ m)
    rw [if_pos (by simp), cutLast_append_cons ']' _ port hrb]
    simp only [validOptionalPort_ok hp, Bool.not_true, Bool.false_eq_true, if_false, splitAtSub_none '%' _ _ hpct]
    exact hun

/-- the per-character test of `validUserinfo` -/
def vuChar (c : Char) : Bool :=
  isAlpha c || isDigit c ||
    ['-', '.', '_', ':', '~', '!', '$', '&', '\'', '(', ')', '*', '+', ',', ';', '=', '%', '@'].contains c

theorem validUserinfo_eq (s : Str) : validUserinfo s = s.all vuChar := rfl

theorem escape_userPassword_vuChar {s : Str} (hb : Bytes s) : (escape .userPassword s).all vuChar = true := by
  have hpct : vuChar '%' = true := by decide +kernel
  have hpunct : ∀ d ∈ punct, shouldEscape d .userPassword = false → vuChar d = true := by decide +kernel
  have hkeep : ∀ c, shouldEscape c .userPassword = false → vuChar c = true :=
    fun _ => not_escaped_ind (P := fun c => vuChar c = true) (fun _ ha => by rw [vuChar, ha, Bool.true_or]) hpunct
  exact List.all_eq_true.mpr (escape_ind hpct hkeep hb)

theorem escape_userPassword_plain {s : Str} (hb : Bytes s) : ∀ c ∈ escape .userPassword s, Plain ['#', '?', '/', ':'] c := by
  have hpct : Plain ['#', '?', '/', ':'] '%' := by decide +kernel
  have hseps : ∀ d ∈ ['#', '?', '/', ':'], shouldEscape d .userPassword = true := by decide +kernel
  exact escape_plain hpct hseps hb

theorem userinfoAt_chars (user : Option (Str × Option Str)) (hu : UserOK user) :
    ∀ c ∈ userinfoAt user, Plain ['#', '?', '/'] c := by
  have hui : ∀ {s : Str}, Bytes s → ∀ c ∈ escape .userPassword s, Plain ['#', '?', '/'] c :=
    fun hb c hc => (escape_userPassword_plain hb c hc).mono (by decide)
  match user, hu with
  | none, _ => intro c hc; cases hc
  | some (n, none), hn =>
    simp only [userinfoAt, List.forall_mem_append, List.forall_mem_singleton]
    exact ⟨hui hn, by decide⟩
  | some (n, some p), ⟨hn, hp⟩ =>
    simp only [userinfoAt, List.forall_mem_append, List.forall_mem_singleton]
    exact ⟨⟨⟨hui hn, by decide⟩, hui hp⟩, by decide⟩

theorem parseAuthority_ok (user : Option (Str × Option Str)) (hu : UserOK user) {H : Str} (hH : HostOK H) :
    ∃ usr, parseAuthority (userinfoAt user ++ H) = some (usr, H) := by
  have hat : '@' ∉ H := not_mem_of_plain (host_plain hH) (by simp)
  have hph := parseHost_ok hH
  have hcolon : ∀ {s : Str}, Bytes s → ':' ∉ escape .userPassword s :=
    fun hb => not_mem_of_plain (escape_userPassword_plain hb) (by simp)
  match user, hu with
  | none, _ =>
    refine ⟨none, ?_⟩
    simp only [userinfoAt, List.nil_append]
    unfold parseAuthority
    rw [cutLast_not_mem '@' _ hat, hph]; rfl
  | some (n, none), hn =>
    have hshape : userinfoAt (some (n, none)) ++ H = escape .userPassword n ++ '@' :: H := by simp [userinfoAt]
    have hnc : (escape .userPassword n).contains ':' = false :=
      Bool.eq_false_iff.mpr fun h => hcolon hn (List.contains_iff_mem.mp h)
    rw [hshape]
    unfold parseAuthority
    rw [cutLast_append_cons '@' _ H hat]
    simp only [hph, validUserinfo_eq, escape_userPassword_vuChar hn, Bool.not_true, Bool.false_eq_true, if_false, hnc,
      Bool.not_false, if_true, unescape_escape .userPassword (by decide) n hn, Option.map_some]
    exact ⟨_, rfl⟩
  | some (n, some p), ⟨hn, hp⟩ =>
    have hshape : userinfoAt (some (n, some p)) ++ H =
        (escape .userPassword n ++ ':' :: escape .userPassword p) ++ '@' :: H := by simp [userinfoAt]
    have hall : (escape .userPassword n ++ ':' :: escape .userPassword p).all vuChar = true := by
      rw [List.all_append, escape_userPassword_vuChar hn, List.all_cons, escape_userPassword_vuChar hp]; decide
    have hcol : (escape .userPassword n ++ ':' :: escape .userPassword p).contains ':' = true := by
      rw [List.contains_iff_mem]; simp
    rw [hshape]
    unfold parseAuthority
    rw [cutLast_append_cons '@' _ H hat]
    simp only [hph, validUserinfo_eq, hall, Bool.not_true, Bool.false_eq_true, if_false, hcol,
      cut_append_cons ':' _ _ (hcolon hn), unescape_escape .userPassword (by decide) n hn,
      unescape_escape .userPassword (by decide) p hp]
    exact ⟨_, rfl⟩

theorem escape_path_head {p : Str} (h : p = [] ∨ p.head? = some '/') :
    escape .path p = [] ∨ (escape .path p).head? = some '/' := by
  rcases h with rfl | h
  · exact Or.inl rfl
  · cases p with
    | nil => cases h
    | cons c t =>
      obtain rfl : c = '/' := by simpa using h
      exact Or.inr (by rw [escape_cons]; rfl)

theorem validEncoded_plain {s : Str} (h : validEncoded .path s = true) : ∀ c ∈ s, Plain ['#', '?'] c := by
  intro c hc
  have := List.all_eq_true.mp h c hc
  simp only [Bool.or_eq_true, Bool.not_eq_true', List.contains_iff_mem] at this
  rcases this with h | h
  · exact (by decide +kernel : ∀ d ∈ ['!', '$', '&', '\'', '(', ')', '*', '+', ',', ';', '=', ':', '@', '[', ']', '%'],
      Plain ['#', '?'] d) c h
  · exact not_escaped_plain (by decide +kernel) h

/-- what `EscapedPath()` returns: rooted, free of `#`, `?` and control bytes, and it unescapes to `Path` -/
theorem escapedPath_ok (u : URL) (h : PathOK u) :
    (escapedPath u = [] ∨ (escapedPath u).head? = some '/') ∧
    (∀ c ∈ escapedPath u, Plain ['#', '?'] c) ∧
    unescape .path (escapedPath u) = some u.path := by
  rcases h with ⟨hr, hp, hb⟩ | ⟨hne, hv, hun, hh⟩
  · have hstar : u.path ≠ ['*'] := by
      rcases hp with h | h
      · rw [h]; simp
      · intro e; rw [e] at h; cases h
    have hep : escapedPath u = escape .path u.path := by simp [escapedPath, hr, hstar]
    rw [hep]
    exact ⟨escape_path_head hp, escape_plain (by decide +kernel) (by decide +kernel) hb,
      unescape_escape .path (by decide) u.path hb⟩
  · have hep : escapedPath u = u.rawPath := by simp [escapedPath, hne, hv, hun]
    rw [hep]
    exact ⟨Or.inr hh, validEncoded_plain hv, hun⟩

/-- what `String()` produces for an `Abs` URL -/
theorem render_abs (u : URL) (hu : Abs u) :
    render u = u.scheme ++ ':' :: ('/' :: '/' :: (userinfoAt u.user ++ u.host ++ escapedPath u) ++
      (if u.forceQuery || u.rawQuery != [] then '?' :: u.rawQuery else [])) := by
  obtain ⟨c0, t, hs, _, _⟩ := hu.scheme
  have hhost : u.host ≠ [] := hostOK_ne_nil hu.host
  have hsch : u.scheme ≠ [] := by rw [hs]; simp
  have hesc : escape .host u.host = u.host := escape_id .host _ (host_not_escaped hu.host)
  have hslash : (escapedPath u != [] && (escapedPath u).head? != some '/' && u.host != []) = false := by
    rcases (escapedPath_ok u hu.path).1 with h | h <;> simp [h]
  simp only [render, hu.noOpaq, hu.noOmit, hu.noFrag, hslash, hesc]
  simp [hsch, hhost]

/-- **URL round trip**: `url.Parse(u.String())` has the scheme, host and path of `u`, for every `Abs` URL -/
theorem roundTrip_abs (u : URL) (hu : Abs u) : RoundTrip u := by
  let auth : Str := userinfoAt u.user ++ u.host
  let hier : Str := '/' :: '/' :: (auth ++ escapedPath u)
  let query : Str := if u.forceQuery || u.rawQuery != [] then '?' :: u.rawQuery else []
  obtain ⟨hephead, hepath, hunesc⟩ := escapedPath_ok u hu.path
  obtain ⟨hSall, hsch, hlow⟩ := scheme_ok hu.scheme (hier ++ query)
  have hR : render u = u.scheme ++ ':' :: (hier ++ query) := render_abs u hu
  -- which separators each part of the string is free of
  have hauthp : ∀ c ∈ auth, Plain ['#', '?', '/'] c :=
    List.forall_mem_append.mpr
      ⟨userinfoAt_chars u.user hu.user, fun c hc => (host_plain hu.host c hc).mono (by decide)⟩
  have hhier : ∀ c ∈ hier, Plain ['#', '?'] c := by
    simp only [hier, List.forall_mem_cons, List.forall_mem_append]
    exact ⟨by decide, by decide, fun c hc => (hauthp c hc).mono (by decide), hepath⟩
  have hqhead : query = [] ∨ query.head? = some '?' := by simp only [query]; split <;> simp
  have hquery : ∀ c ∈ query, Plain ['#'] c := by
    simp only [query]
    split
    · exact List.forall_mem_cons.mpr
        ⟨by decide, fun c hc => ⟨by simpa using (hu.query c hc).1, (hu.query c hc).2⟩⟩
    · intro c hc; cases hc
  have hmemR : ∀ c ∈ render u, Plain ['#'] c := by
    rw [hR]
    exact List.forall_mem_append.mpr ⟨fun c hc => plain_schemeChar (List.all_eq_true.mp hSall c hc),
      List.forall_mem_cons.mpr ⟨by decide,
        List.forall_mem_append.mpr ⟨fun c hc => (hhier c hc).mono (by decide), hquery⟩⟩⟩
  have hctl : ¬containsCTL (render u) = true := by
    rw [containsCTL_eq, List.any_eq_true]
    rintro ⟨c, hc, h⟩
    rw [(hmemR c hc).2] at h; cases h
  obtain ⟨c0, t, hs, _, _⟩ := hu.scheme
  have hstar : render u ≠ ['*'] := by rw [hR, hs]; simp
  obtain ⟨usr, hauth⟩ := parseAuthority_ok u.user hu.user hu.host
  rw [RoundTrip, parse_no_fragment (not_mem_of_plain hmemR (by simp)), parseNoFrag_eq, if_neg hctl, if_neg hstar, hR,
    hsch]
  simp only [Option.bind_some, hlow, splitQuery_tail (not_mem_of_plain hhier (by simp)) hqhead]
  rw [parseHier_authority (by rw [hs]; simp) (not_mem_of_plain hauthp (by simp)) hephead, hauth, Option.bind_some,
    setPath_eq hunesc]
  rfl

end Sticky
