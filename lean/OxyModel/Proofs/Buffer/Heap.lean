import OxyModel.Model.Buffer

/-! The store: what a handler can reach through the pointers of its request copy, and what it cannot. -/
namespace Buf

/-- everything allocated in `h0` is still there, unchanged, in `h` -/
structure Pres (h0 h : Heap) : Prop where
  nSlices : h0.nSlices ≤ h.nSlices
  nMaps : h0.nMaps ≤ h.nMaps
  nUrls : h0.nUrls ≤ h.nUrls
  slices : ∀ i, i < h0.nSlices → h.slices i = h0.slices i
  maps : ∀ m, m < h0.nMaps → h.maps m = h0.maps m
  urls : ∀ u, u < h0.nUrls → h.urls u = h0.urls u

theorem Pres.refl (h : Heap) : Pres h h :=
  ⟨Nat.le_refl _, Nat.le_refl _, Nat.le_refl _, fun _ _ => rfl, fun _ _ => rfl, fun _ _ => rfl⟩

theorem Pres.trans {a b c : Heap} (h1 : Pres a b) (h2 : Pres b c) : Pres a c where
  nSlices := Nat.le_trans h1.nSlices h2.nSlices
  nMaps := Nat.le_trans h1.nMaps h2.nMaps
  nUrls := Nat.le_trans h1.nUrls h2.nUrls
  slices i hi := (h2.slices i (Nat.lt_of_lt_of_le hi h1.nSlices)).trans (h1.slices i hi)
  maps i hi := (h2.maps i (Nat.lt_of_lt_of_le hi h1.nMaps)).trans (h1.maps i hi)
  urls i hi := (h2.urls i (Nat.lt_of_lt_of_le hi h1.nUrls)).trans (h1.urls i hi)

/-- `h` preserves `h0`, and what a handler holding map `m` and URL `u` can write to was allocated after `h0`: the map,
    the URL object, and every backing array the map points to -/
structure Own (h0 h : Heap) (m u : Nat) : Prop extends Pres h0 h where
  map : h0.nMaps ≤ m
  url : h0.nUrls ≤ u
  arrays : ∀ e ∈ h.maps m, h0.nSlices ≤ e.2

theorem Own.mono {h0 h h' : Heap} {m u : Nat} (hp : Pres h0 h) (ho : Own h h' m u) : Own h0 h' m u :=
  { hp.trans ho.toPres with
    map := Nat.le_trans hp.nMaps ho.map, url := Nat.le_trans hp.nUrls ho.url,
    arrays := fun e he => Nat.le_trans hp.nSlices (ho.arrays e he) }

/-! Allocation hands out the next unused id, so everything allocated before is untouched. -/

theorem allocSlice_pres (h : Heap) (vs : List String) : Pres h (h.allocSlice vs).1 :=
  { Pres.refl h with nSlices := Nat.le_succ _, slices := fun _ hi => if_neg (Nat.ne_of_lt hi) }

theorem allocUrl_pres (h : Heap) (u : String) : Pres h (h.allocUrl u).1 :=
  { Pres.refl h with nUrls := Nat.le_succ _, urls := fun _ hi => if_neg (Nat.ne_of_lt hi) }

theorem allocMap_pres (h : Heap) (es : List (String × Nat)) : Pres h (h.allocMap es).1 :=
  { Pres.refl h with nMaps := Nat.le_succ _, maps := fun _ hi => if_neg (Nat.ne_of_lt hi) }

theorem allocMap_maps (h : Heap) (es : List (String × Nat)) : (h.allocMap es).1.maps (h.allocMap es).2 = es :=
  if_pos rfl

/-- map entries `key ↦ slice id` read through the store: `key ↦ values` -/
def derefEntries (h : Heap) (es : List (String × Nat)) : Header := es.map (fun e => (e.1, h.slices e.2))

theorem readMap_eq (h : Heap) (m : Nat) : h.readMap m = derefEntries h (h.maps m) := rfl

theorem derefEntries_congr (h h' : Heap) (es : List (String × Nat)) (hs : ∀ e ∈ es, h'.slices e.2 = h.slices e.2) :
    derefEntries h' es = derefEntries h es := by
  unfold derefEntries
  apply List.map_congr_left
  intro e he; rw [hs e he]

theorem derefEntries_append (h : Heap) (es fs : List (String × Nat)) :
    derefEntries h (es ++ fs) = derefEntries h es ++ derefEntries h fs := List.map_append

/-- `storeSlices` continuing from a store `h` and entries `es` already made -/
def storeFrom (h : Heap) (es : List (String × Nat)) (H : Header) : Heap × List (String × Nat) :=
  H.foldl (fun acc e => ((acc.1.allocSlice e.2).1, acc.2 ++ [(e.1, (acc.1.allocSlice e.2).2)])) (h, es)

theorem storeSlices_eq (h : Heap) (H : Header) : h.storeSlices H = storeFrom h [] H := rfl

theorem storeFrom_cons (h : Heap) (es : List (String × Nat)) (x : String × List String) (H : Header) :
    storeFrom h es (x :: H) = storeFrom (h.allocSlice x.2).1 (es ++ [(x.1, (h.allocSlice x.2).2)]) H := rfl

/-- the entries dereference to the values stored, and stay within the slices allocated since the store held `n` -/
theorem storeFrom_spec (n : Nat) (H : Header) : ∀ (h : Heap) (es : List (String × Nat)), n ≤ h.nSlices →
    (∀ e ∈ es, n ≤ e.2 ∧ e.2 < h.nSlices) →
    Pres h (storeFrom h es H).1 ∧
    derefEntries (storeFrom h es H).1 (storeFrom h es H).2 = derefEntries h es ++ H ∧
    (∀ e ∈ (storeFrom h es H).2, n ≤ e.2 ∧ e.2 < (storeFrom h es H).1.nSlices) := by
  induction H with
  | nil =>
    intro h es _ hes
    exact ⟨Pres.refl h, (List.append_nil _).symm, hes⟩
  | cons x H ih =>
    intro h es hn hes
    rw [storeFrom_cons]
    have hes' : ∀ e ∈ es ++ [(x.1, (h.allocSlice x.2).2)], n ≤ e.2 ∧ e.2 < (h.allocSlice x.2).1.nSlices := by
      intro e he
      rcases List.mem_append.mp he with he | he
      · exact ⟨(hes e he).1, Nat.lt_succ_of_lt (hes e he).2⟩
      · rw [List.mem_singleton.mp he]; exact ⟨hn, Nat.lt_succ_self _⟩
    obtain ⟨i1, i2, i3⟩ := ih (h.allocSlice x.2).1 _ (Nat.le_succ_of_le hn) hes'
    refine ⟨Pres.trans (allocSlice_pres h x.2) i1, ?_, i3⟩
    have hold : derefEntries (h.allocSlice x.2).1 es = derefEntries h es :=
      derefEntries_congr _ _ _ fun e he => (allocSlice_pres h x.2).slices e.2 (hes e he).2
    have hnew : derefEntries (h.allocSlice x.2).1 [(x.1, (h.allocSlice x.2).2)] = [x] := by
      simp [derefEntries, Heap.allocSlice]
    rw [i2, derefEntries_append, hold, hnew, List.append_assoc, List.singleton_append]

/-- on the way from `h` to `h'` header `H` was stored as the new map `m`, all of whose backing arrays are new -/
structure Stored (h h' : Heap) (m : Nat) (H : Header) : Prop extends Pres h h' where
  new : h.nMaps ≤ m
  allocated : m < h'.nMaps
  arrays : ∀ e ∈ h'.maps m, h.nSlices ≤ e.2 ∧ e.2 < h'.nSlices
  reads : h'.readMap m = H

theorem storeHeader_spec (h : Heap) (H : Header) : Stored h (h.storeHeader H).1 (h.storeHeader H).2 H := by
  obtain ⟨i1, i2, i3⟩ := storeFrom_spec h.nSlices H h [] (Nat.le_refl _) (fun e he => nomatch he)
  unfold Heap.storeHeader
  rw [storeSlices_eq]
  exact { Pres.trans i1 (allocMap_pres _ _) with
    new := i1.nMaps
    allocated := Nat.lt_succ_self _
    arrays := by rw [allocMap_maps]; exact i3
    reads := by rw [readMap_eq, allocMap_maps]; exact i2 }

/-- `storeSlices` allocates slices only -/
theorem storeFrom_frame (H : Header) : ∀ (h : Heap) (es : List (String × Nat)),
    (storeFrom h es H).1 =
      { h with slices := (storeFrom h es H).1.slices, nSlices := (storeFrom h es H).1.nSlices } := by
  induction H with
  | nil => exact fun _ _ => rfl
  | cons x H ih => exact fun h es => ih (h.allocSlice x.2).1 _

theorem storeHeader_id (h : Heap) (H : Header) : (h.storeHeader H).2 = h.nMaps :=
  (congrArg Heap.nMaps (storeFrom_frame H h []) :)

theorem storeHeader_nMaps (h : Heap) (H : Header) : (h.storeHeader H).1.nMaps = h.nMaps + 1 :=
  (congrArg (·.nMaps + 1) (storeFrom_frame H h []) :)

theorem storeHeader_urls (h : Heap) (H : Header) : (h.storeHeader H).1.urls = h.urls :=
  (congrArg Heap.urls (storeFrom_frame H h []) :)

theorem storeHeader_nUrls (h : Heap) (H : Header) : (h.storeHeader H).1.nUrls = h.nUrls :=
  (congrArg Heap.nUrls (storeFrom_frame H h []) :)

theorem readMap_eq_of_pres (h0 h : Heap) (m : Nat) (hp : Pres h0 h) (hm : m < h0.nMaps)
    (hs : ∀ e ∈ h0.maps m, e.2 < h0.nSlices) : h.readMap m = h0.readMap m := by
  rw [readMap_eq, readMap_eq, hp.maps m hm]
  exact derefEntries_congr h0 h _ fun e he => hp.slices e.2 (hs e he)

theorem copyRequestH_spec (h : Heap) (r : ReqRef) (size : Nat) :
    Own h (copyRequestH h r size).1 (copyRequestH h r size).2.mapId (copyRequestH h r size).2.urlId ∧
    (copyRequestH h r size).1.deref (copyRequestH h r size).2 =
      ⟨r.method, h.urls r.urlId, Header.copyInto [] (h.readMap r.mapId), (size : Int), []⟩ := by
  have st :=
    storeHeader_spec (h.allocUrl (h.urls r.urlId)).1 (Header.copyInto [] ((h.allocUrl (h.urls r.urlId)).1.readMap r.mapId))
  unfold copyRequestH
  refine ⟨{ Pres.trans (allocUrl_pres h _) st.toPres with
            map := st.new, url := Nat.le_refl _, arrays := fun e he => (st.arrays e he).1 }, ?_⟩
  -- the URL object allocated first is still there after the header was stored
  have hu := (st.urls (h.allocUrl (h.urls r.urlId)).2 (Nat.lt_succ_self _)).trans (if_pos rfl)
  simp only [Heap.deref]
  rw [st.reads, hu]
  rfl

theorem mapLookup_mem (es : List (String × Nat)) (k : String) (s : Nat) (h : mapLookup es k = some s) : (k, s) ∈ es := by
  obtain ⟨l₁, l₂, rfl, _⟩ := List.lookup_eq_some_iff.mp h
  exact List.mem_append_right _ List.mem_cons_self

theorem mapPut_ids (es : List (String × Nat)) (k : String) (s : Nat) (e : String × Nat) (he : e ∈ mapPut es k s) :
    e ∈ es ∨ e.2 = s := by
  unfold mapPut at he
  split at he
  · rw [List.mem_map] at he
    obtain ⟨x, hx, rfl⟩ := he
    split
    · right; rfl
    · left; exact hx
  · rcases List.mem_append.mp he with h1 | h1
    · exact Or.inl h1
    · simp only [List.mem_singleton] at h1; subst h1; exact Or.inr rfl

/-! Writes at addresses allocated after `h0` preserve `h0`. -/

theorem setMap_pres {h0 h : Heap} (hp : Pres h0 h) {m : Nat} (hm : h0.nMaps ≤ m) (es : List (String × Nat)) :
    Pres h0 (h.setMap m es) :=
  { hp with maps := fun i hi => (if_neg (by omega)).trans (hp.maps i hi) }

theorem writeSlice_pres {h0 h : Heap} (hp : Pres h0 h) {s : Nat} (hs : h0.nSlices ≤ s) (vs : List String) :
    Pres h0 (h.writeSlice s vs) :=
  { hp with slices := fun i hi => (if_neg (by omega)).trans (hp.slices i hi) }

theorem writeUrl_pres {h0 h : Heap} (hp : Pres h0 h) {u : Nat} (hu : h0.nUrls ≤ u) (v : String) :
    Pres h0 (h.writeUrl u v) :=
  { hp with urls := fun i hi => (if_neg (by omega)).trans (hp.urls i hi) }

theorem applyH_own (h0 h : Heap) (m u : Nat) (op : HdrOp) (ho : Own h0 h m u) : Own h0 (HdrOp.applyH h m op) m u := by
  -- `Set`, `Add`: a new backing array, and the map entry re-pointed to it
  have putCase : ∀ (vs : List String) (k : String),
      Own h0 ((h.allocSlice vs).1.setMap m (mapPut (h.maps m) k (h.allocSlice vs).2)) m u := by
    intro vs k
    refine { setMap_pres (ho.toPres.trans (allocSlice_pres h vs)) ho.map _ with
             map := ho.map, url := ho.url, arrays := fun e he => ?_ }
    simp only [Heap.setMap, Heap.allocSlice, if_pos] at he
    rcases mapPut_ids _ _ _ e he with h1 | h1
    · exact ho.arrays e h1
    · rw [h1]; exact ho.nSlices
  -- `h[k][0] = v`, `h[k][len-1] = v`: in place, in a backing array the map owns
  have writeCase : ∀ (k : String) (g : Nat → List String),
      Own h0 (match mapLookup (h.maps m) k with | some s => h.writeSlice s (g s) | none => h) m u := by
    intro k g
    cases hl : mapLookup (h.maps m) k with
    | none => exact ho
    | some s => exact { ho with toPres := writeSlice_pres ho.toPres (ho.arrays _ (mapLookup_mem _ _ _ hl)) _ }
  cases op with
  | set k v => exact putCase [v] k
  | add k v => exact putCase _ k
  | del k =>
    refine { setMap_pres ho.toPres ho.map _ with map := ho.map, url := ho.url, arrays := fun e he => ?_ }
    simp only [HdrOp.applyH, Heap.setMap, if_pos] at he
    exact ho.arrays e (List.mem_filter.mp he).1
  | set0 k v => exact writeCase k _
  | setLast k v => exact writeCase k _

theorem handlerHeap_pres (h0 h : Heap) (a : Attempt) (o : OutRef) (ho : Own h0 h o.mapId o.urlId) :
    Pres h0 (handlerHeap a h o) := by
  have fold : ∀ (ops : List HdrOp) (h : Heap), Own h0 h o.mapId o.urlId →
      Own h0 (ops.foldl (fun h op => HdrOp.applyH h o.mapId op) h) o.mapId o.urlId := by
    intro ops
    induction ops with
    | nil => exact fun _ ho => ho
    | cons op ops ih => exact fun h ho => ih _ (applyH_own h0 h _ _ op ho)
  have f := fold a.hdrOps h ho
  unfold handlerHeap
  cases a.setUrl with
  | none => exact f.toPres
  | some v => exact writeUrl_pres f.toPres f.url v

theorem ofReq_method (req : Req) : (Heap.ofReq req).2.method = req.method := rfl

/-- in `h` the request reference `r` is allocated, with its backing arrays, and holds `url` and `header` -/
structure Holds (h : Heap) (r : ReqRef) (url : String) (header : Header) : Prop where
  urlAllocated : r.urlId < h.nUrls
  mapAllocated : r.mapId < h.nMaps
  arraysAllocated : ∀ e ∈ h.maps r.mapId, e.2 < h.nSlices
  url : h.urls r.urlId = url
  header : h.readMap r.mapId = header

theorem ofReq_spec (req : Req) : Holds (Heap.ofReq req).1 (Heap.ofReq req).2 req.url req.header := by
  have st := storeHeader_spec (({} : Heap).allocUrl req.url).1 req.header
  exact {
    urlAllocated := Nat.lt_of_lt_of_le (Nat.lt_succ_self 0) st.nUrls
    mapAllocated := st.allocated
    arraysAllocated := fun e he => (st.arrays e he).2
    url := st.urls 0 (Nat.lt_succ_self 0)
    header := st.reads }

/-! Whatever a handler writes through the pointers of its copy, the next copy is made from an untouched original. -/

/-- one attempt's effect on the store -/
def stepHeap (r : ReqRef) (size : Nat) (a : Attempt) (h : Heap) : Heap :=
  handlerHeap a (copyRequestH h r size).1 (copyRequestH h r size).2

/-- what the attempt sees of the request when it starts in store `h` -/
def viewReq (r : ReqRef) (size : Nat) (h : Heap) : OutReq := (copyRequestH h r size).1.deref (copyRequestH h r size).2

/-- what a handler writes through the references of its copy does not reach the client's request -/
theorem stepHeap_pres (h0 h : Heap) (r : ReqRef) (size : Nat) (a : Attempt) (hp : Pres h0 h) :
    Pres h0 (stepHeap r size a h) :=
  handlerHeap_pres h0 _ a _ ((copyRequestH_spec h r size).1.mono hp)

/-- so the next attempt's view is the client's request again -/
theorem viewReq_eq_of_pres (req : Req) (size : Nat) (h : Heap) (hp : Pres (Heap.ofReq req).1 h) :
    viewReq (Heap.ofReq req).2 size h = copyRequest req size := by
  have q := ofReq_spec req
  unfold viewReq
  rw [(copyRequestH_spec h (Heap.ofReq req).2 size).2, readMap_eq_of_pres _ _ _ hp q.mapAllocated q.arraysAllocated,
    hp.urls _ q.urlAllocated, q.url, q.header]
  rfl

end Buf
