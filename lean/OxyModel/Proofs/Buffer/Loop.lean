import OxyModel.Proofs.Buffer.Settle
import OxyModel.Proofs.Buffer.Heap

/-! The retry loop of `ServeHTTP`.  One pass of the loop body keeps the invariant `LoopInv`, which one induction
(`loop_served`) carries through the loop; what it yields about the returned `Result` is the record `Served`, from which
the C06, C07 and C15 theorems are read off.  After the loop: `multibuf.New` (`multibufNew_spec`) and the lemmas the
Props files enter by — `serve_rejected`, `serve_served`, `serve_seen`. -/
namespace Buf

/-- the buffered request body at the entry of an attempt: all of the request's bytes, offset 0 -/
def BodyInv (req : Req) (body : Option MultiBuf) : Prop :=
  match body with
  | none => req.body = []
  | some b => b.data = req.body ∧ b.pos = 0

/-- what reading at most `n` bytes (`none`: to EOF) from the first byte of the request body yields -/
def expectedRead (req : Req) : Option Nat → Bytes
  | none => req.body
  | some n => req.body.take n

theorem finish_ledger (up : Up) (hij : Bool) (views : List View) (recs : List (BW × Option Rdr)) (c : Nat)
    (h : ∀ e ∈ recs, DefersRemove e.1 e.2) :
    (finish up hij views recs c c).created = (finish up hij views recs c c).removed := by
  have : ((closeAll recs).map (fun b => b.buffer.created)).sum = ((closeAll recs).map (fun b => b.buffer.removed)).sum := by
    unfold closeAll
    rw [List.map_map, List.map_map]
    exact congrArg List.sum (List.map_congr_left fun e he => h e he)
  simp only [finish, this]

/-- what an invocation running `a` saw: the client's request, its body from the first byte, its own temporary file -/
structure Seen (cfg : Cfg) (req : Req) (a : Attempt) (v : View) : Prop where
  request : v.req = copyRequest req req.body.length
  bodyRead : v.bodyRead = expectedRead req a.read
  spilled : (fresh cfg a).buffer.onDisk = true → 1 ≤ v.filesAtExit

section
variable (cfg : Cfg) (req : Req) (r : ReqRef) (size : Nat) (a : Attempt) (k : Nat) (body : Option MultiBuf) (d : Nat)
  (h : Heap)

/-! `attemptStep` in the vocabulary of `Settle` and `Heap`: the writer the handler leaves is `fresh cfg a`, the request
it is shown is `viewReq`, what it does to the store is `stepHeap`. -/

theorem attemptStep_settle :
    (attemptStep cfg req r size a k body d h).bw = (settle cfg req k (fresh cfg a) r.method).bw ∧
    (attemptStep cfg req r size a k body d h).rdr = (settle cfg req k (fresh cfg a) r.method).rdr ∧
    (attemptStep cfg req r size a k body d h).outcome = (settle cfg req k (fresh cfg a) r.method).outcome :=
  ⟨rfl, rfl, rfl⟩

theorem attemptStep_view :
    (attemptStep cfg req r size a k body d h).view.req = viewReq r size h ∧
    (attemptStep cfg req r size a k body d h).view.filesAtExit =
      d + (if (fresh cfg a).buffer.onDisk then 1 else 0) :=
  ⟨rfl, rfl⟩

theorem attemptStep_heap : (attemptStep cfg req r size a k body d h).heap = stepHeap r size a h := rfl

theorem attemptStep_body (hb : BodyInv req body) :
    (attemptStep cfg req r size a k body d h).view.bodyRead = expectedRead req a.read ∧
    BodyInv req ((attemptStep cfg req r size a k body d h).body.map MultiBuf.seek0) := by
  cases body with
  | none =>
    refine ⟨?_, hb⟩
    simp only [BodyInv] at hb
    cases a.read <;> simp [attemptStep, runHandler, expectedRead, hb]
  | some b =>
    refine ⟨?_, hb.1, rfl⟩
    simp only [attemptStep, runHandler, MultiBuf.read, hb.1, hb.2]
    cases a.read <;> simp [expectedRead]

end

/-- what one pass through the loop body leaves behind -/
structure Stepped (cfg : Cfg) (req : Req) (k : Nat) (a : Attempt) (s : StepRes) : Prop where
  decides : s.outcome = decision cfg req k a
  seen : Seen cfg req a s.view
  closes : DefersRemove s.bw s.rdr
  rewound : BodyInv req (s.body.map MultiBuf.seek0)
  store : Pres (Heap.ofReq req).1 s.heap

theorem attemptStep_spec (cfg : Cfg) (req : Req) (a : Attempt) (k d : Nat) (body : Option MultiBuf) (h : Heap)
    (hb : BodyInv req body) (hp : Pres (Heap.ofReq req).1 h) :
    Stepped cfg req k a (attemptStep cfg req (Heap.ofReq req).2 req.body.length a k body d h) := by
  obtain ⟨hdec, hrec⟩ := settle_decision_defersRemove cfg req k a
  obtain ⟨hbw, hrdr, hout⟩ := attemptStep_settle cfg req (Heap.ofReq req).2 req.body.length a k body d h
  obtain ⟨hreq, hfiles⟩ := attemptStep_view cfg req (Heap.ofReq req).2 req.body.length a k body d h
  obtain ⟨hread, hrew⟩ := attemptStep_body cfg req (Heap.ofReq req).2 req.body.length a k body d h hb
  rw [ofReq_method] at hbw hrdr hout
  exact {
    decides := hout.trans hdec
    seen := {
      request := hreq.trans (viewReq_eq_of_pres req _ h hp)
      bodyRead := hread
      spilled := fun hon => by rw [hfiles, hon, if_pos rfl]; exact Nat.le_add_left 1 d }
    closes := by rw [hbw, hrdr]; exact hrec
    rewound := hrew
    store := by rw [attemptStep_heap]; exact stepHeap_pres _ h _ _ a hp }

/-- the loop at the entry of attempt `k`, after `k - 1` attempts that all decided `retry` -/
structure LoopInv (cfg : Cfg) (req : Req) (script : Nat → Attempt) (k : Nat) (body : Option MultiBuf)
    (views : List View) (recs : List (BW × Option Rdr)) (h : Heap) : Prop where
  count : views.length + 1 = k
  retried : ∀ j, 1 ≤ j → j < k → decision cfg req j (script j) = .retry
  seen : ∀ i v, views[i]? = some v → Seen cfg req (script (i + 1)) v
  closed : ∀ e ∈ recs, DefersRemove e.1 e.2
  body : BodyInv req body
  heap : Pres (Heap.ofReq req).1 h

/-- what reaches the client for the decision on the last attempt: the response, hijacked, panicked.  The last
    attempt does not decide `.retry` (`Served.stopped`); the value there is never read. -/
structure Verdict where
  resp : Up
  hijacked : Bool
  panicked : Bool

def verdict : Outcome → Verdict
  | .final up => ⟨up, false, false⟩
  | .hijacked => ⟨{}, true, false⟩
  | .panicked => ⟨{}, false, true⟩
  | .retry => ⟨{}, false, false⟩

/-- what `ServeHTTP` returns for an admitted request, with `n = r.invocations` the last attempt; `c` counts the
    temporary files created, and removed again, before the loop -/
structure Served (cfg : Cfg) (req : Req) (script : Nat → Attempt) (c : Nat) (r : Result) : Prop where
  pos : 1 ≤ r.invocations
  le11 : r.invocations ≤ 11
  fuel : r.outOfFuel = false
  retried : ∀ j, 1 ≤ j → j < r.invocations → decision cfg req j (script j) = .retry
  stopped : decision cfg req r.invocations (script r.invocations) ≠ .retry
  delivered : r.resp = (verdict (decision cfg req r.invocations (script r.invocations))).resp ∧
    r.hijacked = (verdict (decision cfg req r.invocations (script r.invocations))).hijacked ∧
    r.panicked = (verdict (decision cfg req r.invocations (script r.invocations))).panicked
  seen : ∀ i v, r.views[i]? = some v → Seen cfg req (script (i + 1)) v
  ledger : r.created = r.removed
  created : c ≤ r.created

section
variable {cfg : Cfg} {req : Req} {script : Nat → Attempt} {c : Nat} {r : Result} (s : Served cfg req script c r)
include s

theorem Served.resp_of_final {up : Up} (h : decision cfg req r.invocations (script r.invocations) = .final up) :
    r.resp = up ∧ r.hijacked = false ∧ r.panicked = false := by
  have := s.delivered; rw [h] at this; exact this

theorem Served.resp_of_panicked (h : decision cfg req r.invocations (script r.invocations) = .panicked) :
    r.resp = {} ∧ r.hijacked = false ∧ r.panicked = true := by
  have := s.delivered; rw [h] at this; exact this

theorem Served.resp_eq_finalUp (hp : ¬ panics (script r.invocations)) (hh : ¬ hijackEff cfg (script r.invocations))
    (ho : ¬ overLimit cfg (script r.invocations)) :
    r.resp = finalUp req.method (script r.invocations) ∧ r.hijacked = false ∧ r.panicked = false :=
  s.resp_of_final (decision_final hp hh ho fun hr => s.stopped (decision_retry hp hh ho hr))

theorem Served.eq_invocations_of_final {k : Nat} {up : Up} (hk1 : 1 ≤ k) (hk2 : k ≤ r.invocations)
    (h : decision cfg req k (script k) = .final up) : k = r.invocations := by
  by_cases hlt : k < r.invocations
  · have := s.retried k hk1 hlt; rw [h] at this; cases this
  · omega

end

theorem forall_getElem?_concat {α : Type} (P : Nat → α → Prop) (l : List α) (x : α)
    (hl : ∀ i v, l[i]? = some v → P i v) (hx : P l.length x) : ∀ i v, (l ++ [x])[i]? = some v → P i v := by
  intro i v hv
  rcases Nat.lt_trichotomy i l.length with h | h | h
  · rw [List.getElem?_append_left h] at hv; exact hl i v hv
  · rw [h, List.getElem?_concat_length] at hv; cases hv; exact h ▸ hx
  · rw [List.getElem?_eq_none (by rw [List.length_append]; exact h)] at hv; cases hv

/-- The model's loop runs on fuel: `serve` enters attempt 1 with `DefaultMaxRetryAttempts + 1 = 11` units and each
    attempt uses one, so `k + fuel = 12`; a retry is decided only at `k ≤ 10`, so the fuel never runs out. -/
theorem loop_served (cfg : Cfg) (req : Req) (script : Nat → Attempt) (c : Nat) :
    ∀ (fuel k : Nat) (body : Option MultiBuf) (views : List View) (recs : List (BW × Option Rdr)) (h : Heap),
    LoopInv cfg req script k body views recs h → k + fuel = 12 → 1 ≤ fuel →
    Served cfg req script c (loop cfg req (Heap.ofReq req).2 script req.body.length c c fuel k body views recs h) := by
  intro fuel
  induction fuel with
  | zero => intro _ _ _ _ _ _ _ h; omega
  | succ fuel ih =>
    intro k body views recs h inv hsum _
    have hb : 1 ≤ k ∧ k ≤ 11 := by have := inv.count; omega
    have st := attemptStep_spec cfg req (script k) k (onDiskCount recs) body h inv.body inv.heap
    unfold loop
    generalize attemptStep cfg req (Heap.ofReq req).2 req.body.length (script k) k body (onDiskCount recs) h = s
      at st ⊢
    simp only [st.decides]
    have hseen := forall_getElem?_concat (fun i v => Seen cfg req (script (i + 1)) v) views s.view inv.seen
      (inv.count ▸ st.seen)
    have hclosed : ∀ e ∈ (s.bw, s.rdr) :: recs, DefersRemove e.1 e.2 := by
      intro e he
      rcases List.mem_cons.mp he with rfl | he
      · exact st.closes
      · exact inv.closed e he
    have hlen : (views ++ [s.view]).length = k := by rw [List.length_append]; exact inv.count
    generalize hd : decision cfg req k (script k) = d
    -- the three ways out of the loop return the same record, up to `verdict d`
    have stop : ∀ r : Result,
        r = { finish (verdict d).resp (verdict d).hijacked (views ++ [s.view]) ((s.bw, s.rdr) :: recs) c c with
              panicked := (verdict d).panicked } → d ≠ .retry → Served cfg req script c r := by
      intro r hr hne
      have hn : r.invocations = k := by rw [hr]; exact hlen
      exact {
        pos := hn ▸ hb.1
        le11 := hn ▸ hb.2
        fuel := hr ▸ rfl
        retried := by rw [hn]; exact inv.retried
        stopped := by rw [hn, hd]; exact hne
        delivered := by rw [hn, hd, hr]; exact ⟨rfl, rfl, rfl⟩
        seen := hr ▸ hseen
        ledger := hr ▸ finish_ledger (verdict d).resp (verdict d).hijacked (views ++ [s.view]) _ c hclosed
        created := hr ▸ Nat.le_add_right c _ }
    cases d with
    | hijacked => exact stop _ rfl (fun h => nomatch h)
    | panicked => exact stop _ rfl (fun h => nomatch h)
    | final up => exact stop _ rfl (fun h => nomatch h)
    | retry =>
      obtain ⟨_, _, _, hretry⟩ := (decision_retry_iff _ _ _ _).mp hd
      have hk : k ≤ 10 := shouldRetry_le _ _ _ _ hretry
      exact ih (k + 1) (s.body.map MultiBuf.seek0) (views ++ [s.view]) ((s.bw, s.rdr) :: recs) s.heap
        { count := by rw [hlen]
          retried := fun j h1 h2 =>
            if hj : j = k then hj ▸ hd else inv.retried j h1 (by omega)
          seen := hseen
          closed := hclosed
          body := st.rewound
          heap := st.store }
        (by omega) (by omega)

theorem effMem_le_max (mx : Int) (mm : Nat) (h : mx > 0) : (effMem mx mm : Int) ≤ mx := by
  unfold effMem
  generalize (if mm == 0 then MultibufDefaultMemBytes else mm) = m
  simp only
  by_cases hc : mx > 0 ∧ mx < (m : Int)
  · rw [if_pos hc]; omega
  · rw [if_neg hc]; omega

/-- what `multibuf.New` returns on `input` with maximum `mx` and effective memory threshold `mem` -/
structure NewSpec (input : Bytes) (mx : Int) (mem : Nat) (r : NewRes) : Prop where
  unlinked : r.created = r.removed
  refuses : mx > 0 ∧ (input.length : Int) > mx → r.buf = .error .maxSize
  buffers : ¬ (mx > 0 ∧ (input.length : Int) > mx) →
    ∃ b, r.buf = .ok b ∧ b.data = input ∧ b.length = input.length ∧ b.pos = 0
  spills : mem ≤ input.length → r.created = 1

theorem multibufNew_spec (input : Bytes) (mx : Int) (mm : Nat) :
    NewSpec input mx (effMem mx mm) (multibufNew input mx mm) := by
  have hle := effMem_le_max mx mm
  unfold multibufNew
  simp only [List.length_take, List.length_drop]
  generalize effMem mx mm = mem at *
  by_cases hml : mem ≤ input.length
  · -- the limited reader is exhausted: spill, and `maxReader` sees the rest
    rw [Nat.min_eq_left hml, if_pos (by omega)]
    have hcond : (mx > 0 ∧ ((input.length - mem : Nat) : Int) > mx - (mem : Int)) ↔ (mx > 0 ∧ (input.length : Int) > mx) := by
      omega
    by_cases hov : mx > 0 ∧ (input.length : Int) > mx
    · rw [if_pos (hcond.mpr hov)]
      exact { unlinked := rfl, refuses := fun _ => rfl, buffers := fun h => absurd hov h, spills := fun _ => rfl }
    · rw [if_neg (mt hcond.mp hov)]
      exact { unlinked := rfl, refuses := fun h => absurd h hov, spills := fun _ => rfl,
              buffers := fun _ => ⟨_, rfl, List.take_append_drop mem input, Nat.add_sub_cancel' hml, rfl⟩ }
  · have hlt := Nat.lt_of_not_le hml
    rw [Nat.min_eq_right (Nat.le_of_lt hlt), if_neg (by omega)]
    exact { unlinked := rfl, spills := fun h => absurd h hml,
            refuses := fun h => by have := hle h.1; omega,
            buffers := fun _ => ⟨_, rfl, by simp [MultiBuf.data, List.take_of_length_le (Nat.le_of_lt hlt)], rfl, rfl⟩ }

/-- `c` is 0 when `checkLimit` refuses, 1 when `multibuf.New` finds out while reading -/
theorem serve_rejected (cfg : Cfg) (req : Req) (script : Nat → Attempt) (h : requestOver cfg req) :
    ∃ c, serve cfg req script = { resp := sizeErrHandler {} .maxSize, created := c, removed := c } := by
  obtain ⟨h1, h2⟩ := h
  have new := multibufNew_spec req.body cfg.maxReq cfg.memReq
  unfold serve
  by_cases hc : checkLimit cfg req = true
  · simp only [hc, Bool.not_true, Bool.false_eq_true, if_false]
    rw [new.refuses ⟨h1, h2⟩]
    exact ⟨(multibufNew req.body cfg.maxReq cfg.memReq).removed, by simp only [new.unlinked]⟩
  · simp only [hc, Bool.not_false, if_true]
    exact ⟨0, rfl⟩

/-- `c` counts the temporary file of the request body, already unlinked -/
theorem serve_admitted (cfg : Cfg) (req : Req) (script : Nat → Attempt) (h : ¬ requestOver cfg req) :
    ∃ body c, BodyInv req body ∧ (effMem cfg.maxReq cfg.memReq ≤ req.body.length → c = 1) ∧
      serve cfg req script = loop cfg req (Heap.ofReq req).2 script req.body.length c c (DefaultMaxRetryAttempts + 1) 1
        body [] [] (Heap.ofReq req).1 := by
  have new := multibufNew_spec req.body cfg.maxReq cfg.memReq
  obtain ⟨b, hb, hd, hl, hp⟩ := new.buffers h
  have hc : checkLimit cfg req = true := by
    unfold checkLimit Req.contentLength
    by_cases h0 : cfg.maxReq ≤ 0
    · simp [h0]
    · simp only [h0, if_false]
      by_cases hch : req.chunked = true
      · simp only [hch, if_true]
        rw [if_neg (by omega)]
      · simp only [hch, Bool.false_eq_true, if_false]
        rw [if_neg]
        intro hgt; exact h ⟨by omega, hgt⟩
  have hbody : BodyInv req (if req.body.length == 0 then none else some b) := by
    by_cases hz : req.body.length = 0
    · simp only [hz, beq_self_eq_true, if_true, BodyInv]; exact List.eq_nil_of_length_eq_zero hz
    · simp only [beq_iff_eq, hz, if_false, BodyInv]; exact ⟨hd, hp⟩
  refine ⟨_, (multibufNew req.body cfg.maxReq cfg.memReq).created, hbody, new.spills, ?_⟩
  unfold serve
  simp only [hc, Bool.not_true, Bool.false_eq_true, if_false]
  rw [hb]
  simp only [hl, ← new.unlinked]

theorem serve_served (cfg : Cfg) (req : Req) (script : Nat → Attempt) (h : ¬ requestOver cfg req) :
    ∃ c, (effMem cfg.maxReq cfg.memReq ≤ req.body.length → c = 1) ∧ Served cfg req script c (serve cfg req script) := by
  obtain ⟨body, c, hb, hc, hs⟩ := serve_admitted cfg req script h
  rw [hs]
  exact ⟨c, hc, loop_served cfg req script c _ 1 _ [] [] _
    { count := rfl, retried := fun j h1 h2 => by omega, seen := fun i v hv => (by simp at hv),
      closed := fun e he => (by cases he), body := hb, heap := Pres.refl _ }
    rfl (by decide)⟩

theorem serve_seen (cfg : Cfg) (req : Req) (script : Nat → Attempt) (i : Nat) (v : View)
    (h : (serve cfg req script).views[i]? = some v) : Seen cfg req (script (i + 1)) v := by
  by_cases hov : requestOver cfg req
  · obtain ⟨c, hc⟩ := serve_rejected cfg req script hov
    rw [hc] at h; simp at h
  · obtain ⟨_, _, s⟩ := serve_served cfg req script hov
    exact s.seen i v h

end Buf
