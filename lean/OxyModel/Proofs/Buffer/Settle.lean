import OxyModel.Proofs.Buffer.Writer

/-! One attempt: what the handler leaves in the `bufferWriter` (`fresh_eq`), and what `ServeHTTP` decides from it —
`decision`, read off the handler's script alone (`settle_decision_defersRemove`).  At the end, the comparison
combinators of the retry expressions (`RetryExpr.cmpP_iff`). -/
namespace Buf

/-- `respond` as field updates of `b3`, the writer after the `Write` calls; `b3` comes with its equation so that a
    caller can pass it in the form it has it in (`h3` is then `rfl`) -/
theorem respond_eq (a : Attempt) (bw : BW) (canHijack : Bool) (b3 : BW)
    (h3 : b3 = a.writes.foldl BW.write { bw with header := a.respHdr.foldl (fun h e => Header.add h e.1 e.2) bw.header,
                                                 code := a.status.getD bw.code }) :
    respond a bw canHijack =
      { b3 with header := a.lateHdr.foldl (fun h e => Header.add h e.1 e.2) b3.header,
                code := a.lateStatus.getD b3.code,
                panicked := a.panic || b3.panicked,
                hijacked := (!a.panic && (a.hijack && canHijack)) || b3.hijacked } := by
  subst h3
  unfold respond
  cases a.status <;> cases a.lateStatus <;> cases a.panic <;> cases (a.hijack && canHijack) <;> rfl

/-- the `bufferWriter` after the handler ran script `a` -/
def fresh (cfg : Cfg) (a : Attempt) : BW :=
  respond a { buffer := newWriterOnce cfg.maxResp cfg.memResp } cfg.canHijack

def respMem (cfg : Cfg) : Nat := if cfg.memResp == 0 then MultibufDefaultMemBytes else cfg.memResp

theorem respMem_eq (cfg : Cfg) : respMem cfg = if cfg.memResp = 0 then MultibufDefaultMemBytes else cfg.memResp := by
  unfold respMem; simp only [beq_iff_eq]

/-- `st`, `acc` as in `BW.writes_eq`: what the buffer accepted, determined only within the maximum -/
theorem fresh_eq (cfg : Cfg) (a : Attempt) :
    ∃ st acc, Unread st acc ∧ (¬ overLimit cfg a → acc = a.writes.flatten) ∧
      fresh cfg a = { header := respHeaderOf a, code := capCode a,
                      buffer := Writer.holding cfg.maxResp (respMem cfg) st acc,
                      hijacked := !a.panic && (a.hijack && cfg.canHijack),
                      written := decide (a.writes.flatten ≠ []),
                      writeError := decide (overLimit cfg a), panicked := a.panic } := by
  -- the writer the `Write` calls start on: early headers and status set, the buffer new
  generalize hbw : ({ header := a.respHdr.foldl (fun h e => Header.add h e.1 e.2) [], code := a.status.getD 0,
                      buffer := Writer.holding cfg.maxResp (respMem cfg) .init [] } : BW) = bw2
  have hf : fresh cfg a = _ := respond_eq a _ cfg.canHijack (a.writes.foldl BW.write bw2) (by rw [← hbw, Writer.holding_new]; rfl)
  obtain ⟨st, acc, hu, hacc, hw⟩ := BW.writes_eq cfg.maxResp (respMem cfg) a.writes bw2 .init [] Unread.new
    (fun h => Int.le_of_lt h) (by rw [← hbw])
  refine ⟨st, acc, hu, fun h => by simpa using hacc (by simpa [overLimit] using h), ?_⟩
  have hc : capCode a = a.lateStatus.getD (if a.writes = [] then a.status.getD 0
      else if a.status.getD 0 = 0 then 200 else a.status.getD 0) := by
    unfold capCode; cases a.lateStatus <;> rfl
  rw [hf, hw]
  subst hbw
  simp [hc, respHeaderOf, overLimit]

theorem fresh_onDisk (cfg : Cfg) (a : Attempt) (h : ¬ overLimit cfg a) :
    (fresh cfg a).buffer.onDisk = decide (respMem cfg < sumLen a.writes) := by
  obtain ⟨st, acc, _, hacc, hf⟩ := fresh_eq cfg a
  rw [hf]
  simp only [Writer.holding_onDisk, hacc h, length_flatten_eq_sumLen]

theorem expectBody_iff (bw : BW) (a : Attempt) (m : String) (hc : bw.code = capCode a)
    (hh : bw.header = respHeaderOf a) : bw.expectBody m = true ↔ bodyAllowed m a := by
  unfold BW.expectBody bodyAllowed
  rw [hc, hh]
  generalize capCode a = c
  generalize Header.get (respHeaderOf a) "Content-Length" = cl
  generalize Header.get (respHeaderOf a) "Grpc-Status" = g
  -- a test that fires refutes its conjunct of `bodyAllowed`.  `by_cases` and `rw`, not `split`: splitting on a test
  -- that mentions a string literal decodes the literal
  by_cases h1 : (m == "HEAD") = true
  · rw [if_pos h1]; exact iff_of_false (fun h => nomatch h) fun ⟨hm, _⟩ => hm (eq_of_beq h1)
  rw [if_neg h1]
  by_cases h2 : ((decide (c ≥ 100) && decide (c < 200)) || c == 204 || c == 304) = true
  · rw [if_pos h2]; refine iff_of_false (fun h => nomatch h) fun ⟨_, h1xx, h204, h304, _⟩ => ?_
    simp only [Bool.or_eq_true, Bool.and_eq_true, decide_eq_true_eq, beq_iff_eq] at h2
    rcases h2 with (h2 | h2) | h2
    · exact h1xx h2
    · exact h204 h2
    · exact h304 h2
  rw [if_neg h2]
  by_cases h3 : (cl == "0") = true
  · rw [if_pos h3]; exact iff_of_false (fun h => nomatch h) fun ⟨_, _, _, _, hcl, _⟩ => hcl (eq_of_beq h3)
  rw [if_neg h3]
  by_cases h4 : (g != "" && g != "0") = true
  · rw [if_pos h4]; refine iff_of_false (fun h => nomatch h) fun ⟨_, _, _, _, _, hg⟩ => ?_
    simp only [Bool.and_eq_true, bne_iff_ne, ne_eq] at h4
    exact hg.elim h4.1 h4.2
  rw [if_neg h4]
  simp only [Bool.or_eq_true, Bool.and_eq_true, decide_eq_true_eq, beq_iff_eq, not_or] at h2
  simp only [Bool.and_eq_true, bne_iff_ne, ne_eq, Decidable.not_and_iff_not_or_not, Decidable.not_not] at h4
  exact iff_of_true rfl ⟨mt beq_iff_eq.mpr h1, h2.1.1, h2.1.2, h2.2, mt beq_iff_eq.mpr h3, h4⟩

theorem not_bodyAllowed_iff (m : String) (a : Attempt) :
    ¬ bodyAllowed m a ↔
      (m = "HEAD" ∨ (100 ≤ capCode a ∧ capCode a < 200) ∨ capCode a = 204 ∨ capCode a = 304 ∨
       Header.get (respHeaderOf a) "Content-Length" = "0" ∨
       (Header.get (respHeaderOf a) "Grpc-Status" ≠ "" ∧ Header.get (respHeaderOf a) "Grpc-Status" ≠ "0")) := by
  simp only [bodyAllowed, ne_eq, Decidable.not_and_iff_not_or_not, Decidable.not_not, not_or]

/-! `SizeErrHandler` on a fresh `ResponseWriter`, with the body a variable: evaluating the two sides would decode the
string literal. -/

theorem Up.new_writeHeader_write (c : Nat) (b : Bytes) : (({} : Up).writeHeader c).write b = ⟨[], some c, [], b⟩ := rfl

theorem sizeErrHandler_maxSize :
    sizeErrHandler {} .maxSize = ⟨[], some 413, [], textBytes "Request Entity Too Large"⟩ :=
  Up.new_writeHeader_write 413 (textBytes "Request Entity Too Large")

theorem sizeErrHandler_other :
    sizeErrHandler {} .other = ⟨[], some 500, [], textBytes "Internal Server Error"⟩ :=
  Up.new_writeHeader_write 500 (textBytes "Internal Server Error")

def finalBody (method : String) (a : Attempt) : Bytes := if bodyAllowed method a then a.writes.flatten else []

theorem finalBody_allowed {method : String} {a : Attempt} (h : bodyAllowed method a) :
    finalBody method a = a.writes.flatten := if_pos h

theorem finalBody_dropped {method : String} {a : Attempt} (h : ¬ bodyAllowed method a) : finalBody method a = [] :=
  if_neg h

/-- the response delivered for a final attempt -/
def finalUp (method : String) (a : Attempt) : Up :=
  { header := Header.copyInto [] (respHeaderOf a), status := some (finalStatus a),
    sentHeader := Header.copyInto [] (respHeaderOf a), body := finalBody method a }

theorem shouldRetry_iff (cfg : Cfg) (req : Req) (k c : Nat) :
    shouldRetry cfg req k c = true ↔
      k ≤ 10 ∧ ∃ e, cfg.retry = some e ∧ RetryExpr.compile e ⟨k, c, req.method⟩ = true := by
  unfold shouldRetry
  cases cfg.retry with
  | none => exact ⟨(fun h => nomatch h), fun ⟨_, _, h, _⟩ => nomatch h⟩
  | some e =>
    simp only [Option.some.injEq, exists_eq_left']
    by_cases hk : k > DefaultMaxRetryAttempts
    · rw [if_pos hk]; exact ⟨(fun h => nomatch h), fun h => absurd h.1 (Nat.not_le_of_gt hk)⟩
    · rw [if_neg hk]; exact ⟨fun h => ⟨Nat.le_of_not_gt hk, h⟩, fun h => h.2⟩

theorem shouldRetry_le (cfg : Cfg) (req : Req) (k c : Nat) (h : shouldRetry cfg req k c = true) : k ≤ 10 :=
  ((shouldRetry_iff cfg req k c).mp h).1

theorem deliver_eq (bw : BW) (rdr : Option Rdr) :
    deliver bw rdr = { header := Header.copyInto [] bw.header, status := some (if bw.code = 0 then 200 else bw.code),
                       sentHeader := Header.copyInto [] bw.header,
                       body := match rdr with | some r => r.data | none => [] } := by
  cases rdr <;> simp [deliver, Up.writeHeader, Up.write]

/-! `settle`, test by test in the order of the loop body of buffer.go. -/

section
variable (cfg : Cfg) (req : Req) (k : Nat) (b : BW) (m : String)

theorem settle_pan (h : b.panicked = true) : settle cfg req k b m = ⟨b, none, .panicked⟩ := by
  unfold settle; rw [if_pos h]

theorem settle_hij (h0 : ¬ b.panicked = true) (h : b.hijacked = true) : settle cfg req k b m = ⟨b, none, .hijacked⟩ := by
  unfold settle; rw [if_neg h0, if_pos h]

theorem settle_err (h0 : ¬ b.panicked = true) (h : ¬ b.hijacked = true) (h2 : b.writeError = true) :
    settle cfg req k b m = ⟨b, none, .final (sizeErrHandler {} .other)⟩ := by
  unfold settle; rw [if_neg h0, if_neg h, if_pos h2]

theorem settle_body (h0 : ¬ b.panicked = true) (h : ¬ b.hijacked = true) (h2 : ¬ b.writeError = true)
    (h3 : (b.expectBody m && b.written) = true) (w : Writer) (r : Rdr) (h4 : b.buffer.reader = some (w, r)) :
    settle cfg req k b m = if shouldRetry cfg req k b.code then ⟨{ b with buffer := w }, some r, .retry⟩
      else ⟨{ b with buffer := w }, some r, .final (deliver { b with buffer := w } (some r))⟩ := by
  unfold settle; rw [if_neg h0, if_neg h, if_neg h2, if_pos h3, h4]

theorem settle_nobody (h0 : ¬ b.panicked = true) (h : ¬ b.hijacked = true) (h2 : ¬ b.writeError = true)
    (h3 : ¬ (b.expectBody m && b.written) = true) :
    settle cfg req k b m = if shouldRetry cfg req k b.code then ⟨b, none, .retry⟩
      else ⟨b, none, .final (deliver b none)⟩ := by
  unfold settle; rw [if_neg h0, if_neg h, if_neg h2, if_neg h3]

/-- only the retry test of buffer.go sends the loop round again -/
theorem settle_retry_imp (h : (settle cfg req k b m).outcome = .retry) : shouldRetry cfg req k b.code = true := by
  by_cases h0 : b.panicked = true
  · rw [settle_pan _ _ _ _ _ h0] at h; cases h
  by_cases h1 : b.hijacked = true
  · rw [settle_hij _ _ _ _ _ h0 h1] at h; cases h
  by_cases h2 : b.writeError = true
  · rw [settle_err _ _ _ _ _ h0 h1 h2] at h; cases h
  by_cases hr : shouldRetry cfg req k b.code = true
  · exact hr
  by_cases h3 : (b.expectBody m && b.written) = true
  · cases h4 : b.buffer.reader with
    | none => unfold settle at h; rw [if_neg h0, if_neg h1, if_neg h2, if_pos h3, h4] at h; cases h
    | some wr => rw [settle_body _ _ _ _ _ h0 h1 h2 h3 wr.1 wr.2 h4, if_neg hr] at h; cases h
  · rw [settle_nobody _ _ _ _ _ h0 h1 h2 h3, if_neg hr] at h; cases h

end

/-- what `ServeHTTP` does after attempt `k` ran script `a`, read off the script: the order of the tests in the loop
    body of buffer.go, with the response `deliver` hands to the client written out -/
def decision (cfg : Cfg) (req : Req) (k : Nat) (a : Attempt) : Outcome :=
  if panics a then .panicked
  else if hijackEff cfg a then .hijacked
  else if overLimit cfg a then .final (sizeErrHandler {} .other)
  else if shouldRetry cfg req k (capCode a) then .retry
  else .final (finalUp req.method a)

section
variable {cfg : Cfg} {req : Req} {k : Nat} {a : Attempt}

theorem decision_panics (hp : panics a) : decision cfg req k a = .panicked := if_pos hp

theorem decision_hijack (hp : ¬ panics a) (hh : hijackEff cfg a) : decision cfg req k a = .hijacked := by
  unfold decision; rw [if_neg hp, if_pos hh]

theorem decision_over (hp : ¬ panics a) (hh : ¬ hijackEff cfg a) (ho : overLimit cfg a) :
    decision cfg req k a = .final (sizeErrHandler {} .other) := by
  unfold decision; rw [if_neg hp, if_neg hh, if_pos ho]

theorem decision_retry (hp : ¬ panics a) (hh : ¬ hijackEff cfg a) (ho : ¬ overLimit cfg a)
    (hr : shouldRetry cfg req k (capCode a) = true) : decision cfg req k a = .retry := by
  unfold decision; rw [if_neg hp, if_neg hh, if_neg ho, if_pos hr]

theorem decision_final (hp : ¬ panics a) (hh : ¬ hijackEff cfg a) (ho : ¬ overLimit cfg a)
    (hr : ¬ shouldRetry cfg req k (capCode a) = true) :
    decision cfg req k a = .final (finalUp req.method a) := by
  unfold decision; rw [if_neg hp, if_neg hh, if_neg ho, if_neg hr]

end

theorem decision_retry_iff (cfg : Cfg) (req : Req) (k : Nat) (a : Attempt) :
    decision cfg req k a = .retry ↔
      ¬ panics a ∧ ¬ hijackEff cfg a ∧ ¬ overLimit cfg a ∧ shouldRetry cfg req k (capCode a) = true := by
  refine ⟨fun h => ?_, fun ⟨hp, hh, ho, hr⟩ => decision_retry hp hh ho hr⟩
  by_cases hp : panics a
  · rw [decision_panics hp] at h; cases h
  by_cases hh : hijackEff cfg a
  · rw [decision_hijack hp hh] at h; cases h
  by_cases ho : overLimit cfg a
  · rw [decision_over hp hh ho] at h; cases h
  by_cases hr : shouldRetry cfg req k (capCode a) = true
  · exact ⟨hp, hh, ho, hr⟩
  · rw [decision_final hp hh ho hr] at h; cases h

theorem settle_decision_defersRemove (cfg : Cfg) (req : Req) (k : Nat) (a : Attempt) :
    (settle cfg req k (fresh cfg a) req.method).outcome = decision cfg req k a ∧
    DefersRemove (settle cfg req k (fresh cfg a) req.method).bw (settle cfg req k (fresh cfg a) req.method).rdr := by
  obtain ⟨st, acc, hu, hacc, hf⟩ := fresh_eq cfg a
  have hexp := expectBody_iff (fresh cfg a) a req.method (by rw [hf]) (by rw [hf])
  have hun : DefersRemove (fresh cfg a) none := defersRemove_unread _ _ _ st acc hu (by rw [hf])
  have hpan : (fresh cfg a).panicked = true ↔ panics a := by rw [hf]; rfl
  have hhij : (fresh cfg a).hijacked = true ↔ hijackEff cfg a := by rw [hf]; simp [hijackEff]
  have herr : (fresh cfg a).writeError = true ↔ overLimit cfg a := by rw [hf]; simp
  have hwr : (fresh cfg a).written = true ↔ a.writes.flatten ≠ [] := by rw [hf]; simp
  have hcode : (fresh cfg a).code = capCode a := by rw [hf]
  have hhdr : (fresh cfg a).header = respHeaderOf a := by rw [hf]
  have hbuf : (fresh cfg a).buffer = Writer.holding cfg.maxResp (respMem cfg) st acc := by rw [hf]
  generalize fresh cfg a = b at *
  by_cases cpan : panics a
  · rw [settle_pan _ _ _ _ _ (hpan.mpr cpan), decision_panics cpan]; exact ⟨rfl, hun⟩
  have npan := mt hpan.mp cpan
  by_cases chij : hijackEff cfg a
  · rw [settle_hij _ _ _ _ _ npan (hhij.mpr chij), decision_hijack cpan chij]; exact ⟨rfl, hun⟩
  have nhij := mt hhij.mp chij
  by_cases cover : overLimit cfg a
  · rw [settle_err _ _ _ _ _ npan nhij (herr.mpr cover), decision_over cpan chij cover]; exact ⟨rfl, hun⟩
  have nerr := mt herr.mp cover
  have hfin : (if b.code = 0 then 200 else b.code) = finalStatus a := by rw [hcode]; rfl
  have hdec : decision cfg req k a = if shouldRetry cfg req k b.code then .retry else .final (finalUp req.method a) := by
    rw [hcode]; split
    · rename_i hr; exact decision_retry cpan chij cover hr
    · rename_i hr; exact decision_final cpan chij cover hr
  rw [hdec]
  by_cases cbody : (b.expectBody req.method && b.written) = true
  · -- a body is expected and bytes were written: they were all accepted, so `Reader()` succeeds and hands them out
    have hbody := cbody
    rw [Bool.and_eq_true, hexp, hwr] at cbody
    have hacc' := hacc cover
    have hst : st = .mem := hu.mem_of_ne_nil (hacc' ▸ cbody.2)
    subst hst
    rw [settle_body _ _ _ _ _ npan nhij nerr hbody _ _
      (by rw [hbuf, Writer.reader_holding _ _ _ _ hu, if_neg (by simp)])]
    split
    · exact ⟨rfl, defersRemove_read b _ _ _⟩
    · refine ⟨?_, defersRemove_read b _ _ _⟩
      simp [deliver_eq, finalUp, hfin, hhdr, finalBody_allowed cbody.1, hacc']
  · -- no body goes out: `finalBody` is empty, either by the response kind or because nothing was written
    rw [settle_nobody _ _ _ _ _ npan nhij nerr cbody]
    split
    · exact ⟨rfl, hun⟩
    · refine ⟨?_, hun⟩
      have hb : finalBody req.method a = [] := by
        by_cases hba : bodyAllowed req.method a
        · rw [finalBody_allowed hba]
          rw [Bool.and_eq_true, hexp, hwr] at cbody
          exact Decidable.not_not.mp fun h => cbody ⟨hba, h⟩
        · exact finalBody_dropped hba
      simp [deliver_eq, finalUp, hfin, hhdr, hb]

end Buf

/-! The comparison combinators of `Model/RetryExpr.lean` under their ordinary reading, over any int mapper
(for `C07.C07_eval_standard`; `shouldRetry_iff` above stops at `compile`). -/
namespace RetryExpr

def cmpHolds : Cmp → Nat → Nat → Prop
  | .eq, a, v => a = v
  | .neq, a, v => a ≠ v
  | .lt, a, v => a < v
  | .gt, a, v => a > v
  | .le, a, v => a ≤ v
  | .ge, a, v => a ≥ v

theorem cmpP_iff (m : Ctx → Nat) (v : Nat) (op : Cmp) (c : Ctx) :
    cmpP m v op c = true ↔ cmpHolds op (m c) v := by
  cases op <;> simp only [cmpP, cmpHolds, intEQ, intLT, intGT, notP, beq_iff_eq, decide_eq_true_eq, Bool.or_eq_true,
    Bool.not_eq_true', beq_eq_false_iff_ne, ne_eq]
  -- left: `le` and `ge`, a disjunction against an order
  · omega
  · omega

end RetryExpr
