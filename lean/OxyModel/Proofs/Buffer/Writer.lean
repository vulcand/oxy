import OxyModel.Proofs.Buffer.Spec

/-! `multibuf.writerOnce` (the model's `Buf.Writer`; `utils.ProxyWriter` is `Proofs/Stack/ProxyWriter.lean`) while the
handler writes.  Until `Reader()` is called the writer is determined by the bytes it has accepted
(`Writer.holding`): the first `memBytes` of them in memory, the rest in a temporary file that exists iff there is a
rest. -/
namespace Buf

theorem Writer.writeToMem_eq (w : Writer) (n : Nat) : w.writeToMem n = min n (w.memBytes - w.total) := by
  unfold Writer.writeToMem
  simp only [Int.toNat_sub]
  split
  · omega
  · split <;> omega

theorem Writer.writeToMem_le (w : Writer) (n : Nat) :
    w.writeToMem n ≤ n ∧ w.total + w.writeToMem n ≤ max w.total w.memBytes := by
  rw [Writer.writeToMem_eq]; omega

theorem Writer.write_over (w : Writer) (p : Bytes)
    (h : w.maxBytes > 0 ∧ (p.length : Int) + (w.total : Int) > w.maxBytes) : w.write p = (w, true) := by
  unfold Writer.write; rw [if_pos h]

/-- a `Write` that returns an error leaves the writer as it was -/
theorem Writer.write_rejected_eq (w : Writer) (p : Bytes) (h : (w.write p).2 = true) : (w.write p).1 = w := by
  by_cases hov : w.maxBytes > 0 ∧ (p.length : Int) + (w.total : Int) > w.maxBytes
  · rw [Writer.write_over w p hov]
  · -- within the maximum only a writer whose `Reader()` was called returns an error
    unfold Writer.write at h ⊢
    rw [if_neg hov] at h ⊢
    cases hs : w.state with
    | calledRead => rfl
    | file => rw [hs] at h; cases h
    | init => rw [hs] at h; simp only at h; split at h <;> cases h
    | mem => rw [hs] at h; simp only at h; split at h <;> cases h

theorem Writer.write_cfg (w : Writer) (p : Bytes) :
    (w.write p).1.maxBytes = w.maxBytes ∧ (w.write p).1.memBytes = w.memBytes := by
  unfold Writer.write
  split
  · exact ⟨rfl, rfl⟩
  · cases w.state with
    | calledRead => exact ⟨rfl, rfl⟩
    | file => exact ⟨rfl, rfl⟩
    | init => simp only; split <;> exact ⟨rfl, rfl⟩
    | mem => simp only; split <;> exact ⟨rfl, rfl⟩

theorem Writer.write_file (w : Writer) (p : Bytes)
    (h : ¬ (w.maxBytes > 0 ∧ (p.length : Int) + (w.total : Int) > w.maxBytes)) (hs : w.state = .file) :
    w.write p = ({ w with fileBuf := w.fileBuf ++ p, total := w.total + p.length }, false) := by
  unfold Writer.write; rw [if_neg h, hs]

theorem Writer.write_fits (w : Writer) (p : Bytes)
    (h : ¬ (w.maxBytes > 0 ∧ (p.length : Int) + (w.total : Int) > w.maxBytes))
    (hs : w.state = .init ∨ w.state = .mem) (hf : w.total + p.length ≤ w.memBytes) :
    w.write p = ({ w with state := .mem, memBuf := w.memBuf ++ p, total := w.total + p.length }, false) := by
  have hk : min p.length (w.memBytes - w.total) = p.length := by omega
  unfold Writer.write
  rw [if_neg h, Writer.writeToMem_eq, hk]
  rcases hs with hs | hs <;> rw [hs] <;> simp only [List.take_length, Nat.sub_self, if_true]

theorem Writer.write_spills (w : Writer) (p : Bytes)
    (h : ¬ (w.maxBytes > 0 ∧ (p.length : Int) + (w.total : Int) > w.maxBytes))
    (hs : w.state = .init ∨ w.state = .mem) (ht : w.total ≤ w.memBytes) (hf : w.memBytes < w.total + p.length) :
    w.write p = ({ w with state := .file, memBuf := w.memBuf ++ p.take (w.memBytes - w.total),
                          fileBuf := w.fileBuf ++ p.drop (w.memBytes - w.total), fileOpen := true, hasCleanup := true,
                          created := w.created + 1, onDisk := true, total := w.total + p.length }, false) := by
  have hk : min p.length (w.memBytes - w.total) = w.memBytes - w.total := by omega
  have hne : ¬ p.length - (w.memBytes - w.total) = 0 := by omega
  have htot : w.total + (w.memBytes - w.total) + (p.length - (w.memBytes - w.total)) = w.total + p.length := by
    omega
  unfold Writer.write
  rw [if_neg h, Writer.writeToMem_eq, hk]
  rcases hs with hs | hs <;> rw [hs] <;> simp only [hne, if_false, htot]

/-- the `writerOnce` with maximum `mx` and threshold `mm` that has accepted exactly the bytes `acc`.  `st` is
    `.init` before the first accepted `Write` and `.mem` after it; once there is a file the state is `.file`. -/
def Writer.holding (mx : Int) (mm : Nat) (st : WState) (acc : Bytes) : Writer :=
  if acc.length ≤ mm then { maxBytes := mx, memBytes := mm, state := st, memBuf := acc, total := acc.length }
  else { maxBytes := mx, memBytes := mm, state := .file, memBuf := acc.take mm, fileBuf := acc.drop mm,
         fileOpen := true, hasCleanup := true, total := acc.length, created := 1, onDisk := true }

theorem Writer.holding_new (mx : Int) (mm : Nat) :
    newWriterOnce mx mm = Writer.holding mx (if mm == 0 then MultibufDefaultMemBytes else mm) .init [] := rfl

theorem Writer.holding_onDisk (mx : Int) (mm : Nat) (st : WState) (acc : Bytes) :
    (Writer.holding mx mm st acc).onDisk = decide (mm < acc.length) := by
  unfold Writer.holding
  split
  · rename_i h; exact (decide_eq_false (Nat.not_lt.mpr h)).symm
  · rename_i h; exact (decide_eq_true (Nat.lt_of_not_le h)).symm

/-- the `st`, `acc` of `holding` for a writer `Reader()` has not been called on: `.init` with nothing accepted, or
    `.mem` (once there is a file `holding` ignores `st`) -/
def Unread (st : WState) (acc : Bytes) : Prop := st = .init ∧ acc = [] ∨ st = .mem

theorem Unread.new : Unread .init [] := Or.inl ⟨rfl, rfl⟩

theorem Unread.mem (acc : Bytes) : Unread .mem acc := Or.inr rfl

theorem Unread.state {st : WState} {acc : Bytes} (h : Unread st acc) : st = .init ∨ st = .mem :=
  h.elim (fun h => Or.inl h.1) Or.inr

theorem Unread.mem_of_ne_nil {st : WState} {acc : Bytes} (h : Unread st acc) (hne : acc ≠ []) : st = .mem :=
  h.elim (fun h => absurd h.2 hne) id

theorem Writer.write_holding (mx : Int) (mm : Nat) (st : WState) (acc p : Bytes) (hu : Unread st acc)
    (h : ¬ (mx > 0 ∧ (p.length : Int) + (acc.length : Int) > mx)) :
    (Writer.holding mx mm st acc).write p = (Writer.holding mx mm .mem (acc ++ p), false) := by
  unfold Writer.holding
  rw [List.length_append]
  by_cases h1 : acc.length ≤ mm
  · rw [if_pos h1]
    by_cases h2 : acc.length + p.length ≤ mm
    · rw [if_pos h2, Writer.write_fits _ _ h hu.state h2]
    · rw [if_neg h2, Writer.write_spills _ _ h hu.state h1 (Nat.lt_of_not_le h2)]
      simp only [List.take_append, List.drop_append, List.take_of_length_le h1, List.drop_of_length_le h1,
        List.nil_append]
  · rw [if_neg h1, if_neg (by omega), Writer.write_file _ _ h rfl,
      List.take_append_of_le_length (Nat.le_of_not_le h1), List.drop_append_of_le_length (Nat.le_of_not_le h1)]

theorem Writer.write_holding_over (mx : Int) (mm : Nat) (st : WState) (acc p : Bytes)
    (h : mx > 0 ∧ (p.length : Int) + (acc.length : Int) > mx) :
    (Writer.holding mx mm st acc).write p = (Writer.holding mx mm st acc, true) := by
  unfold Writer.holding
  split <;> exact Writer.write_over _ _ h

theorem Writer.reader_holding (mx : Int) (mm : Nat) (st : WState) (acc : Bytes) (hu : Unread st acc) :
    (Writer.holding mx mm st acc).reader =
      if st = .init then none
      else some ({ Writer.holding mx mm st acc with state := .calledRead, fileOpen := false },
                 ⟨acc, decide (mm < acc.length)⟩) := by
  unfold Writer.holding
  by_cases h : acc.length ≤ mm
  · rw [if_pos h]
    rcases hu with ⟨rfl, rfl⟩ | rfl
    · rfl
    · simp [Writer.reader, Nat.not_lt.mpr h]
  · rw [if_neg h]
    rcases hu with ⟨rfl, rfl⟩ | rfl
    · exact absurd (Nat.zero_le _) h
    · simp [Writer.reader, Nat.lt_of_not_le h]

/-- the deferred closes of one attempt (`rdr.Close()` if it obtained a reader, then `bw.Close()`) leave its temporary
    file removed -/
def DefersRemove (bw : BW) (rdr : Option Rdr) : Prop :=
  (runDefers bw rdr).buffer.created = (runDefers bw rdr).buffer.removed

/-- `bw.Close()` itself calls `Reader()`, whose cleanup function removes the file -/
theorem defersRemove_unread (b : BW) (mx : Int) (mm : Nat) (st : WState) (acc : Bytes) (hu : Unread st acc)
    (hb : b.buffer = Writer.holding mx mm st acc) : DefersRemove b none := by
  simp only [DefersRemove, runDefers, BW.close, hb, Writer.reader_holding mx mm st acc hu]
  unfold Writer.holding
  rcases hu with ⟨rfl, rfl⟩ | rfl
  · simp [Writer.close]
  · by_cases h : acc.length ≤ mm
    · simp [h, Writer.close, Writer.closeRdr]
    · simp [h, Nat.lt_of_not_le h, Writer.close, Writer.closeRdr]

/-- the reader handed out carries the cleanup function: `rdr.Close()` removes the file -/
theorem defersRemove_read (b : BW) (mx : Int) (mm : Nat) (acc : Bytes) :
    DefersRemove { b with buffer := { Writer.holding mx mm .mem acc with state := .calledRead, fileOpen := false } }
      (some ⟨acc, decide (mm < acc.length)⟩) := by
  simp only [DefersRemove, runDefers, BW.close, Writer.holding]
  by_cases h : acc.length ≤ mm
  · simp [h, Writer.close, Writer.closeRdr, Writer.reader]
  · simp [h, Nat.lt_of_not_le h, Writer.close, Writer.closeRdr, Writer.reader]

theorem sumLen_cons (p : Bytes) (ws : List Bytes) : sumLen (p :: ws) = p.length + sumLen ws := by
  simp [sumLen]

theorem length_flatten_eq_sumLen (ws : List Bytes) : ws.flatten.length = sumLen ws := by
  simp [sumLen, List.length_flatten]

theorem BW.write_eq (bw : BW) (p : Bytes) :
    bw.write p = { bw with code := if bw.code = 0 then 200 else bw.code, written := bw.written || decide (p ≠ []),
                           buffer := (bw.buffer.write p).1,
                           writeError := (bw.buffer.write p).2 || bw.writeError } := by
  simp only [BW.write]
  cases p <;> cases (bw.buffer.write _).2 <;> simp

/-- `mx > 0 → acc.length ≤ mx` is the invariant "what was accepted is within the maximum": with it, some `Write` was
    refused iff the total is over.  `acc'` is determined only within the maximum; over it nothing reads which prefix was
    accepted. -/
theorem BW.writes_eq (mx : Int) (mm : Nat) (ws : List Bytes) : ∀ (bw : BW) (st : WState) (acc : Bytes),
    Unread st acc → (mx > 0 → (acc.length : Int) ≤ mx) → bw.buffer = Writer.holding mx mm st acc →
    ∃ st' acc', Unread st' acc' ∧ (¬ (mx > 0 ∧ (acc.length : Int) + sumLen ws > mx) → acc' = acc ++ ws.flatten) ∧
      ws.foldl BW.write bw =
        { bw with code := if ws = [] then bw.code else if bw.code = 0 then 200 else bw.code,
                  written := bw.written || decide (ws.flatten ≠ []),
                  buffer := Writer.holding mx mm st' acc',
                  writeError := bw.writeError || decide (mx > 0 ∧ (acc.length : Int) + sumLen ws > mx) } := by
  induction ws with
  | nil =>
    intro bw st acc hu hm hb
    have : ¬ (mx > 0 ∧ (acc.length : Int) + sumLen [] > mx) := fun ⟨a, b⟩ => Int.not_lt.mpr (hm a) (by simpa [sumLen] using b)
    refine ⟨st, acc, hu, fun _ => (List.append_nil acc).symm, ?_⟩
    rw [decide_eq_false this, ← hb]; simp
  | cons p ws ih =>
    intro bw st acc hu hm hb
    have hw := BW.write_eq bw p
    rw [List.foldl_cons, sumLen_cons, if_neg (List.cons_ne_nil p ws)]
    -- a code that `Write` has seen is not 0, so only the first call sets it
    have hcode : (if ws = [] then (if bw.code = 0 then 200 else bw.code)
        else if (if bw.code = 0 then 200 else bw.code) = 0 then 200 else (if bw.code = 0 then 200 else bw.code)) =
        (if bw.code = 0 then 200 else bw.code) := by
      by_cases h : bw.code = 0
      · rw [if_pos h]; exact ite_self 200
      · rw [if_neg h, if_neg h, ite_self]
    have hwritten : (bw.written || decide (p ≠ []) || decide (ws.flatten ≠ [])) =
        (bw.written || decide ((p :: ws).flatten ≠ [])) := by
      rw [Bool.or_assoc, ← Bool.decide_or]
      simp only [List.flatten_cons, ne_eq, List.append_eq_nil_iff, Decidable.not_and_iff_not_or_not]
    by_cases hp : mx > 0 ∧ (p.length : Int) + (acc.length : Int) > mx
    · -- `p` is refused: the total is over the maximum whatever follows
      rw [hb, Writer.write_holding_over mx mm st acc p hp] at hw
      obtain ⟨st', acc', u, _, e⟩ := ih (bw.write p) st acc hu hm (by rw [hw])
      have hov : mx > 0 ∧ (acc.length : Int) + ((p.length + sumLen ws : Nat) : Int) > mx := ⟨hp.1, by omega⟩
      refine ⟨st', acc', u, fun h => absurd hov h, ?_⟩
      rw [e, hw, decide_eq_true hov]
      simp only [hcode, hwritten, Bool.true_or, Bool.or_true]
    · rw [hb, Writer.write_holding mx mm st acc p hu hp] at hw
      obtain ⟨st', acc', u, e3, e⟩ := ih (bw.write p) .mem (acc ++ p) (Unread.mem _)
        (fun h => by rw [List.length_append]; omega) (by rw [hw])
      have hiff : (mx > 0 ∧ ((acc ++ p).length : Int) + sumLen ws > mx) ↔
          (mx > 0 ∧ (acc.length : Int) + ((p.length + sumLen ws : Nat) : Int) > mx) := by
        rw [List.length_append]; omega
      refine ⟨st', acc', u, fun h => ?_, ?_⟩
      · rw [e3 (mt hiff.mp h), List.flatten_cons, List.append_assoc]
      · rw [e, hw]
        simp only [hcode, hwritten, hiff, Bool.false_or]

end Buf
