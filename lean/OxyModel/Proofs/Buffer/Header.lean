import OxyModel.Model.Buffer

/-! `utils.CopyHeaders` into an empty map reproduces a header map with distinct keys. -/
namespace Buf.Header

/-- a Go map: every key once -/
def WF (h : Header) : Prop := h.Pairwise (fun e f => e.1 ≠ f.1)

theorem appendVals_fresh (d : Header) (k : String) (vs : List String) (hk : ∀ e ∈ d, e.1 ≠ k) :
    appendVals d k vs = d ++ [(k, vs)] := by
  unfold appendVals
  have : d.any (fun e => e.1 == k) = false := by
    rw [List.any_eq_false]; intro e he; simpa using hk e he
  simp [this]

theorem copyInto_append (src : Header) : ∀ dst : Header, WF src → (∀ e ∈ dst, ∀ f ∈ src, e.1 ≠ f.1) →
    copyInto dst src = dst ++ src := by
  induction src with
  | nil => intro dst _ _; simp [copyInto]
  | cons e src ih =>
    intro dst hwf hdis
    unfold WF at hwf
    rw [List.pairwise_cons] at hwf
    have h1 : appendVals dst e.1 e.2 = dst ++ [(e.1, e.2)] :=
      appendVals_fresh dst e.1 e.2 (fun x hx => hdis x hx e List.mem_cons_self)
    have : copyInto dst (e :: src) = copyInto (dst ++ [(e.1, e.2)]) src := by
      unfold copyInto; rw [List.foldl_cons, h1]
    rw [this, ih (dst ++ [(e.1, e.2)]) hwf.2]
    · simp
    · intro x hx f hf
      rcases List.mem_append.mp hx with hx | hx
      · exact hdis x hx f (List.mem_cons_of_mem _ hf)
      · simp only [List.mem_singleton] at hx; subst hx; exact hwf.1 f hf

theorem copyInto_nil (h : Header) (hwf : WF h) : copyInto [] h = h := by
  have := copyInto_append h [] hwf (fun e he => by cases he)
  simpa using this

end Buf.Header
