import OxyModel.Proofs.Stack.Basic
import OxyModel.Proofs.ConnLimit.Rejecting
import OxyModel.Proofs.RateLimit.Retry
import OxyModel.Proofs.CBreaker.Machine
import OxyModel.Proofs.RR.Window
import OxyModel.Model.Pool
import OxyModel.Proofs.Buffer.Spec

/-!
# Link between the stack model (C20) and the per-layer models

`Model/Stack.lean` abstracts every stateful layer to one number (`Stack.eff`) or one flag (`LayerCfg.tripped`).
This file defines the abstraction functions from the states of the per-layer models (the objects of the
C04 / C03-C13 / C05 / C01-C02 / C15 theorems) to that number / flag and proves that they commute with the steps
of the per-layer models.  The property theorems built from these lemmas are in `Props/C20.lean` (`C20_link_*`).
-/
namespace StackLink
open Stack (LayerCfg Kind intervenes eff)

section conn
open ConnLimit

/-- abstraction: the number of requests of `src` inside the protected handler -/
def connAbs (s : SysR) (src : String) : Nat := inflightCount s.base.inflight src

theorem intervenes_conn {s : SysR} {l : LayerCfg} (hk : l.kind = Kind.connlimit) (hl : (l.limit : Int) = s.base.max)
    (n : Nat) (req : Stack.Req) : intervenes (eff l n) req = true ↔ s.base.max ≤ (n : Int) := by
  have : intervenes (eff l n) req = decide (l.limit ≤ n) := by simp [intervenes, eff, hk]
  rw [this, decide_eq_true_iff, ← hl, Int.ofNat_le]

theorem conn_decision {s : SysR} (hu : Unit1 s.base) (src : String) {l : LayerCfg} (hk : l.kind = Kind.connlimit)
    (hl : (l.limit : Int) = s.base.max) (req : Stack.Req) :
    (acquire s.base.st src 1 s.base.max).isNone = intervenes (eff l (connAbs s src)) req := by
  rw [Bool.eq_iff_iff, intervenes_conn hk hl, Option.isNone_iff_eq_none, acquire_none_iff, hu.get_eq_count src, connAbs]

theorem conn_start {s : SysR} (hu : Unit1 s.base) {l : LayerCfg} (hk : l.kind = Kind.connlimit)
    (hl : (l.limit : Int) = s.base.max) (req : Stack.Req) (id src : String)
    (hf : findReq s.base.inflight id = none) (hr : findRej s.rejecting id = none) :
    (intervenes (eff l (connAbs s src)) req = false →
      (stepR s (.start id src 1)).2 = .base .admitted ∧
      connAbs (stepR s (.start id src 1)).1 src = Stack.enter Kind.connlimit (connAbs s src)) ∧
    (intervenes (eff l (connAbs s src)) req = true →
      ((stepR s (.start id src 1)).2 = .base .rejected ∨ (stepR s (.start id src 1)).2 = .rejecting) ∧
      connAbs (stepR s (.start id src 1)).1 src = connAbs s src) := by
  obtain ⟨hrej, hadm⟩ := hu.startR_iff id src hf hr
  constructor
  · intro hi
    have hlt : (connAbs s src : Int) < s.base.max :=
      Int.not_le.mp fun hle => by rw [(intervenes_conn hk hl _ req).mpr hle] at hi; cases hi
    have hstep := step_admit (a := 1) hf (by rw [hu.get_eq_count]; exact hlt)
    refine ⟨hadm.mpr hlt, ?_⟩
    rw [stepR_start hr (by rw [hstep]; nofun), hstep, connAbs, count_append_one, if_pos rfl]
    rfl
  · intro hi
    have hle := (intervenes_conn hk hl _ req).mp hi
    have hstep := step_reject (a := 1) hf (by rw [hu.get_eq_count]; exact hle)
    refine ⟨hrej.mpr hle, ?_⟩
    rcases stepR_cases s (.start id src 1) with h | ⟨h, _⟩
    · rw [h, hstep]
    · rw [connAbs, h]; rfl

theorem conn_finish (s : SysR) (id : String) (r : ConnLimit.Req) (how : Exit)
    (hf : findReq s.base.inflight id = some r) (hr : findRej s.rejecting id = none) (src : String) :
    (stepR s (.finish id how)).2 = .base .released ∧
    (r.src = src → connAbs (stepR s (.finish id how)).1 src = Stack.leave Kind.connlimit (connAbs s src)) ∧
    (r.src ≠ src → connAbs (stepR s (.finish id how)).1 src = connAbs s src) := by
  have hc := count_dropReq hf src
  rw [stepR_finish hr, step_finish hf]
  refine ⟨rfl, fun he => ?_, fun he => ?_⟩
  · rw [if_pos he] at hc
    exact Nat.eq_sub_of_add_eq hc
  · rw [if_neg he] at hc
    exact hc

theorem conn_start_other (s : SysR) (id src' src : String) (a : Int) (hne : src' ≠ src) :
    connAbs (stepR s (.start id src' a)).1 src = connAbs s src := by
  have hbase : inflightCount (step s.base (.start id src' a)).1.inflight src = inflightCount s.base.inflight src := by
    rcases step_cases s.base (.start id src' a) with h | ⟨_, _, _, he, hf, hlt⟩ | ⟨_, _, _, he, _⟩
    · rw [h]
    · cases he
      rw [step_admit hf hlt, count_append_one, if_neg hne]; rfl
    · cases he
  rcases stepR_cases s (.start id src' a) with h | ⟨h, _⟩
  · rw [h]; exact hbase
  · rw [connAbs, h]; rfl

end conn

section rate
open RL TTL

/-- tokens a set of buckets can still hand out at the instant `t`: the smallest refilled bucket (`0` for no bucket) -/
def minAvail : List Bucket → Nat → Nat
  | [], _ => 0
  | b :: bs, t => if bs.isEmpty then (b.refill t).avail else min (b.refill t).avail (minAvail bs t)

/-- abstraction: the tokens left for `src` at the instant `t` — over the bucket set `consumeRates` would work on
(the tracked set brought up to date, or a new full one), after the refill `consume` starts with -/
def rateAbs (l : Limiter) (t : Nat) (src : String) : Nat := minAvail (l.current t src l.defaults).buckets t

theorem intervenes_rate (l : LayerCfg) (hk : l.kind = Kind.ratelimit) (n : Nat) (req : Stack.Req) :
    intervenes (eff l n) req = decide (n = 0) := by
  simp [intervenes, eff, hk]

theorem minAvail_single (b : Bucket) (t : Nat) : minAvail [b] t = (b.refill t).avail := by simp [minAvail]

theorem minAvail_cons_cons (b c : Bucket) (cs : List Bucket) (t : Nat) :
    minAvail (b :: c :: cs) t = min (b.refill t).avail (minAvail (c :: cs) t) :=
  if_neg Bool.false_ne_true

theorem le_minAvail_iff (bs : List Bucket) (hne : bs ≠ []) (t k : Nat) :
    k ≤ minAvail bs t ↔ ∀ b ∈ bs, k ≤ (b.refill t).avail := by
  induction bs with
  | nil => exact absurd rfl hne
  | cons b bs ih =>
    cases bs with
    | nil => rw [minAvail_single, List.forall_mem_singleton]
    | cons c cs => rw [minAvail_cons_cons, Nat.le_min, List.forall_mem_cons, ih (by simp)]

/-- pointwise relation between the refilled contents ⇒ the same relation between the minima -/
theorem minAvail_map (bs : List Bucket) (t : Nat) (f : Bucket → Bucket) (g : Nat → Nat)
    (hg : ∀ a b, g (min a b) = min (g a) (g b))
    (hf : ∀ b ∈ bs, ((f b).refill t).avail = g (b.refill t).avail) (hne : bs ≠ []) :
    minAvail (bs.map f) t = g (minAvail bs t) := by
  induction bs with
  | nil => exact absurd rfl hne
  | cons b bs ih =>
    cases bs with
    | nil => rw [List.map_singleton, minAvail_single, minAvail_single, hf b (by simp)]
    | cons c cs =>
      have := ih (fun x hx => hf x (List.mem_cons_of_mem _ hx)) (by simp)
      rw [List.map_cons] at this
      rw [List.map_cons, List.map_cons, minAvail_cons_cons, this, minAvail_cons_cons, hg, hf b (by simp)]

theorem minAvail_consumeSet_ok (bs : List Bucket) (t n : Nat) (htpt : ∀ b ∈ bs, 0 < b.tpt) (hne : bs ≠ [])
    (h : (consumeSet bs t n).2 = .ok) : minAvail (consumeSet bs t n).1 t = minAvail bs t - n := by
  have hset := settled_after_consumeSet bs t n
  rw [(admit_debits_all bs t n htpt h).1] at hset ⊢
  refine minAvail_map bs t _ (· - n) (fun a b => (Nat.sub_min_sub_right a b n).symm) ?_ hne
  intro b hb
  rw [hset _ (List.mem_map.mpr ⟨b, hb, rfl⟩)]

/-- C13's no-debit, seen through the abstraction -/
theorem minAvail_consumeSet_rejected (bs : List Bucket) (t n : Nat) (hne : bs ≠ [])
    (h : (consumeSet bs t n).2 ≠ .ok) : minAvail (consumeSet bs t n).1 t = minAvail bs t := by
  have hset := settled_after_consumeSet bs t n
  rw [reject_no_debit bs t n h] at hset ⊢
  refine minAvail_map bs t _ id (fun _ _ => rfl) ?_ hne
  intro b hb
  rw [hset _ (List.mem_map.mpr ⟨b, hb, rfl⟩)]
  rfl

theorem tpt_burst_of_matches {bs : List Bucket} {rates : List Rate} {tl : Nat}
    (hm : List.Forall₂ (Matches tl) bs rates) (hv : ∀ r ∈ rates, r.valid = true) :
    ∀ b ∈ bs, 0 < b.tpt ∧ 1 ≤ b.burst := by
  intro b hb
  obtain ⟨r, hr, hbr⟩ := forall₂_mem_left _ _ _ hm b hb
  exact ⟨by rw [hbr.2.1]; exact tptOf_pos _ _, by rw [hbr.2.2.1]; exact (valid_facts r (hv r hr)).2.2⟩

theorem consumeSet_one (bs : List Bucket) (t : Nat) (hb : ∀ b ∈ bs, 0 < b.tpt ∧ 1 ≤ b.burst) (hne : bs ≠ []) :
    ((consumeSet bs t 1).2 = .ok ↔ minAvail bs t ≠ 0) ∧
    ((∃ d, (consumeSet bs t 1).2 = .delay d) ↔ minAvail bs t = 0) := by
  have hok : (consumeSet bs t 1).2 = .ok ↔ minAvail bs t ≠ 0 := by
    rw [show minAvail bs t ≠ 0 ↔ 1 ≤ minAvail bs t by omega, le_minAvail_iff bs hne]
    constructor
    · intro h b hmem
      exact ((consume_ok_iff b t 1).mp (consumeSet_all_of_ok bs t 1 (fun b hb' => (hb b hb').1) h b hmem)).2
    · intro h
      exact consumeSet_ok_of_all bs t 1 (fun b hmem => (consume_ok_iff b t 1).mpr ⟨(hb b hmem).2, h b hmem⟩)
  have hnerr : (consumeSet bs t 1).2 ≠ .err := by
    rw [Ne, consumeSet_err_iff]
    rintro ⟨b, hmem, hlt⟩
    have := (hb b hmem).2; omega
  refine ⟨hok, ?_, ?_⟩
  · rintro ⟨d, hd⟩
    by_contra hc
    rw [hok.mpr hc] at hd; cases hd
  · intro h0
    cases hres : (consumeSet bs t 1).2 with
    | ok => exact absurd h0 (hok.mp hres)
    | err => exact absurd hres hnerr
    | delay d => exact ⟨d, rfl⟩

theorem rateAbs_eq (rates : List Rate) (l : Limiter) (hd : l.defaults = rates) (t : Nat) (src : String) :
    rateAbs l t src = minAvail (currentOf (l.sets.find? src) t rates).buckets t := by
  unfold rateAbs; rw [current_eq, hd]

/-- the bucket set the *next* request of `src` at the same instant finds is the one this request left -/
theorem serve_then_current (rates : List Rate) (hv : ValidRates rates) (l : Limiter) (t0 t : Nat)
    (hinv : LimiterInv rates l t0) (ht : t0 ≤ t) (src : String) (n : Nat) (v : String) :
    (currentOf ((l.serve t src n [] v).1.sets.find? src) t rates).buckets
      = (consumeSet (currentOf (l.sets.find? src) t rates).buckets t n).1 := by
  have hinv' := serveEntry_inv rates hv (l.sets.find? src) t src n (inv_entry hinv ht src)
  -- the entry just written expires only in a later second
  have hexp : ¬ (serveEntry rates (l.sets.find? src) t src n []).1.expiry ≤ nowSec t := by
    show ¬ expiryAt t (ttlOf _) ≤ nowSec t
    rw [expiryAt_eq]; unfold ttlOf nowSec; omega
  rw [serve_find, if_pos rfl, hinv.1, currentOf_live hexp, update_same t t _ rates hinv'.2.2 hv.nodup hinv'.1]
  rfl

theorem rate_serve (rates : List Rate) (hv : ValidRates rates) (hne : rates ≠ []) (l : Limiter) (t0 t : Nat)
    (hinv : LimiterInv rates l t0) (ht : t0 ≤ t) (src victim : String) :
    ((l.serve t src 1 [] victim).2 = .ok ↔ rateAbs l t src ≠ 0) ∧
    ((∃ d, (l.serve t src 1 [] victim).2 = .tooMany d) ↔ rateAbs l t src = 0) ∧
    ((l.serve t src 1 [] victim).2 = .ok → rateAbs (l.serve t src 1 [] victim).1 t src = rateAbs l t src - 1) ∧
    ((l.serve t src 1 [] victim).2 ≠ .ok → rateAbs (l.serve t src 1 [] victim).1 t src = rateAbs l t src) := by
  have hd : l.defaults = rates := hinv.1
  obtain ⟨tl, _, hm⟩ := inv_current hv hinv ht src
  have hbs : (currentOf (l.sets.find? src) t rates).buckets ≠ [] := fun e => by rw [e] at hm; cases hm; exact hne rfl
  have htb := tpt_burst_of_matches hm hv.valid
  obtain ⟨ok_iff, delay_iff⟩ := consumeSet_one _ t htb hbs
  have takes_one := minAvail_consumeSet_ok _ t 1 (fun b hb => (htb b hb).1) hbs
  have takes_nothing := minAvail_consumeSet_rejected _ t 1 hbs
  rw [rateAbs_eq rates (l.serve t src 1 [] victim).1 ((serve_defaults ..).trans hd), rateAbs_eq rates l hd,
    serve_resp_current hd,
    serve_then_current rates hv l t0 t hinv ht]
  simp only [ofSRes_ok, ofSRes_delay, Ne]
  exact ⟨ok_iff, delay_iff, takes_one, takes_nothing⟩

theorem rate_serve_other (l : Limiter) (t : Nat) (src s' : String) (a : Nat) (victim : String) (hne : src ≠ s')
    (hvict : l.evictsAt t s' = true → victim ≠ src) :
    rateAbs (l.serve t s' a [] victim).1 t src = rateAbs l t src := by
  unfold rateAbs
  rw [current_eq, current_eq, serve_defaults, serve_find, if_neg hne, if_neg fun h => hvict h.1 h.2]

theorem rate_first_contact (l : Limiter) (t : Nat) (src : String) (h : l.sets.find? src = none) :
    rateAbs l t src = minAvail (l.defaults.map (fun r => mkBucket r t)) t := by
  unfold rateAbs
  rw [current_eq, h]
  rfl

end rate

section brk
open CB

/-- abstraction: the flag `tripped` of a cbreaker layer at the instant `now` -/
def brkFlag (b : Brk) (now : Nat) : Bool := decide (b.state = .tripped ∧ now < b.until_)

/-- the breaker states of the C20 harness: standby, or tripped with the fallback period still running.  The recovery ramp
(state `recovering`, or `tripped` with the deadline reached: the next arrival starts the ramp) is outside. -/
def brkSettled (b : Brk) (now : Nat) : Prop := b.state = .standby ∨ (b.state = .tripped ∧ now < b.until_)

instance (b : Brk) (now : Nat) : Decidable (brkSettled b now) := by unfold brkSettled; infer_instance

theorem brkFlag_eq_of_fields {b b' : Brk} (h1 : b'.state = b.state) (h2 : b'.until_ = b.until_) (now : Nat) :
    brkFlag b' now = brkFlag b now := by
  unfold brkFlag; rw [h1, h2]

theorem brkFlag_of_quiet {b b' : Brk} (h : Quiet b b') (now : Nat) : brkFlag b' now = brkFlag b now :=
  brkFlag_eq_of_fields h.state h.until_ now

theorem arrive_of_settled (c : Cfg) {b : Brk} {now : Nat} (h : brkSettled b now) :
    arrive c b now = (if brkFlag b now then .fallback else .pass, b) ∧ (brkFlag b now = false ↔ b.state = .standby) := by
  rcases h with hs | ⟨hs, hlt⟩
  · rw [arrive_standby c b now hs]; simp [brkFlag, hs]
  · rw [arrive_tripped_before c b now hs hlt]; simp [brkFlag, hs, hlt]

end brk

/-- abstraction: the flag `tripped` of a roundrobin / rebalancer layer — `NextServer` has nobody to select: no member of
positive weight, in particular the empty pool -/
def balFlag (ws : List Nat) : Bool := ws.all (fun w => w == 0)

theorem balFlag_true_iff (ws : List Nat) : balFlag ws = true ↔ ∀ w ∈ ws, w = 0 := by
  simp only [balFlag, List.all_eq_true, beq_iff_eq]

theorem balFlag_false_iff (ws : List Nat) : balFlag ws = false ↔ ∃ w ∈ ws, 0 < w := by
  simp only [balFlag, List.all_eq_false, beq_iff_eq, Nat.pos_iff_ne_zero]

/-- the routing part of `ServeHTTP` (both balancers) for a request without sticky cookie -/
theorem route_nocookie (b : PoolM.Bal) (sticky : Bool) :
    (∀ i, (RR.next b.ws b.it).1 = .sel i → ∃ r b', b.route sticky none = (.fwd r false, b')) ∧
    ((∀ i, (RR.next b.ws b.it).1 ≠ .sel i) → ∃ b', b.route sticky none = (.err (RR.next b.ws b.it).1, b')) := by
  have hstuck : (if sticky then (match (none : Option PoolM.Key) with | some k => b.findRef k | none => none) else none) = none := by
    cases sticky <;> rfl
  constructor
  · intro i hi
    simp only [PoolM.Bal.route, hstuck, PoolM.Bal.nextServer, RR.Pool.nextServer, PoolM.Bal.view, hi]
    exact ⟨_, _, rfl⟩
  · intro hn
    simp only [PoolM.Bal.route, hstuck, PoolM.Bal.nextServer, RR.Pool.nextServer, PoolM.Bal.view]
    cases hr : (RR.next b.ws b.it).1 with
    | sel i => exact absurd hr (hn i)
    | errNoServers => exact ⟨_, rfl⟩
    | errAllZero => exact ⟨_, rfl⟩
    | outOfFuel => exact ⟨_, rfl⟩

/-- One layer of a stack, given by its configuration record (what the stack model needs besides the decision: cookie,
fallback, response maximum, retry, …) and, for the deciding layers, by the state of the layer's own model:
* `conn`: the connection limiter reached by the history `hist` (limit `l.limit`; `slow`: its error handler parks the requests
  it turns away, cf. `ConnLimit.SysR`), and the source of the request;
* `rate`: a limiter state `lim` satisfying the reachability invariant for the default rates `rates`, the frozen instant `t`,
  the source, and the TTL map's victim choice;
* `brk`: breaker configuration and state, and the instant;
* `bal`: the pool's weight vector and the number of `NextServer` calls since the pool last changed;
* `buf`: the buffer's configuration and the request as the buffer model sees it. -/
inductive Layer where
  | plain (l : LayerCfg)
  | conn (l : LayerCfg) (slow : Bool) (hist : List ConnLimit.Event) (src : String)
  | rate (l : LayerCfg) (rates : List RL.Rate) (lim : RL.Limiter) (t0 t : Nat) (src victim : String)
  | brk (l : LayerCfg) (c : CB.Cfg) (b : CB.Brk) (now : Nat)
  | bal (l : LayerCfg) (ws : List Nat) (j : Nat)
  | buf (l : LayerCfg) (cfg : Buf.Cfg) (breq : Buf.Req)

def connState (l : LayerCfg) (slow : Bool) (hist : List ConnLimit.Event) : ConnLimit.SysR :=
  ConnLimit.runR (ConnLimit.SysR.init (l.limit : Int) slow) hist

/-- **the abstraction**: the stack model's layer for a layer given by its own model -/
def Layer.cfg : Layer → LayerCfg
  | .plain l => l
  | .conn l slow hist src => eff l (connAbs (connState l slow hist) src)
  | .rate l _ lim _ t src _ => eff l (rateAbs lim t src)
  | .brk l _ b now => { l with tripped := brkFlag b now }
  | .bal l ws _ => { l with tripped := balFlag ws }
  | .buf l cfg _ => { l with maxReq := cfg.maxReq.toNat }

/-- well-formedness: the kind fits, the model state is reachable / inside the domain of the link, the request is the same -/
def Layer.ok : Layer → Stack.Req → Prop
  | .plain l, _ => l.kind = Kind.stream ∨ l.kind = Kind.trace
  | .conn l _ hist _, _ => l.kind = Kind.connlimit ∧ ConnLimit.amountsOne hist = true
  | .rate l rates lim t0 t _ _, _ =>
      l.kind = Kind.ratelimit ∧ RL.ValidRates rates ∧ rates ≠ [] ∧ RL.LimiterInv rates lim t0 ∧ t0 ≤ t
  | .brk l _ b now, _ => l.kind = Kind.cbreaker ∧ brkSettled b now
  | .bal l _ _, _ => l.kind = Kind.roundrobin ∨ l.kind = Kind.rebalancer
  | .buf l _ breq, req => l.kind = Kind.buffer ∧ breq.body.length = req.bodyLen

/-- the decision of the layer's **own model** on this request: it hands the request to `next` -/
def Layer.admits : Layer → Prop
  | .plain _ => True
  | .conn l slow hist src =>
      ConnLimit.acquire (connState l slow hist).base.st src 1 (connState l slow hist).base.max ≠ none
  | .rate _ _ lim _ t src victim => (lim.serve t src 1 [] victim).2 = RL.Resp.ok
  | .brk _ c b now => (CB.arrive c b now).1 = CB.Out.pass
  | .bal _ ws j => ∃ i, (RR.next ws (RR.after ws j RR.It.reset)).1 = RR.Res.sel i
  | .buf _ cfg breq => ¬ Buf.requestOver cfg breq

end StackLink
