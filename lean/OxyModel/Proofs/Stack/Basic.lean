import OxyModel.Model.Stack

/-! A stack is a fold of `step` over the result of the first layer that answers, and a result that every layer relays
(`Relayable`) comes out as `relayed` says.  Sequences of requests (`serveSt`), one layer at a time: the stateful stack agrees
with `serve` on the effective configuration `effStack` as long as no attempt meets a state its predecessor changed. -/
namespace Stack

/-- writer capabilities after passing inward through `stack` -/
def capsThrough (stack : List LayerCfg) (c : Caps) : Caps := stack.foldl (fun c l => wrapCaps l.kind c) c

/-- what the passing layers of `stack` add to a response relayed through them -/
def decorate (stack : List LayerCfg) (r : Resp) : Resp := stack.foldr decorate1 r

def hasBuffer (stack : List LayerCfg) : Prop := ∃ l ∈ stack, l.kind = Kind.buffer

@[simp] theorem capsThrough_nil (c : Caps) : capsThrough [] c = c := rfl
@[simp] theorem capsThrough_cons (l : LayerCfg) (ls : List LayerCfg) (c : Caps) :
    capsThrough (l :: ls) c = capsThrough ls (wrapCaps l.kind c) := rfl
@[simp] theorem decorate_nil (r : Resp) : decorate [] r = r := rfl
@[simp] theorem decorate_cons (l : LayerCfg) (ls : List LayerCfg) (r : Resp) :
    decorate (l :: ls) r = decorate1 l (decorate ls r) := rfl

theorem decorate_eq (stack : List LayerCfg) (r : Resp) :
    decorate stack r = { r with headers := stack.flatMap cookieOf ++ r.headers } := by
  induction stack with
  | nil => rfl
  | cons l ls ih => rw [decorate_cons, ih, decorate1, List.flatMap_cons, List.append_assoc]

theorem decorate_status (stack : List LayerCfg) (r : Resp) : (decorate stack r).status = r.status := by rw [decorate_eq]

theorem decorate_body (stack : List LayerCfg) (r : Resp) : (decorate stack r).body = r.body := by rw [decorate_eq]

theorem fst_of_mem_cookies {stack : List LayerCfg} {hd : Header} (h : hd ∈ stack.flatMap cookieOf) :
    hd.1 = "Set-Cookie" := by
  obtain ⟨l, _, hl⟩ := List.mem_flatMap.mp h
  unfold cookieOf at hl
  split at hl
  · rw [List.mem_singleton.mp hl]
  · rw [List.mem_singleton.mp hl]
  · cases hl

theorem hget_append_of_ne (cs hs : List Header) (key : String) (h : ∀ hd ∈ cs, hd.1 ≠ key) :
    hget (cs ++ hs) key = hget hs key := by
  induction cs with
  | nil => rfl
  | cons c cs ih => rw [List.cons_append, hget, if_neg (h c (by simp)), ih (fun x hx => h x (by simp [hx]))]

theorem hget_cookies (stack : List LayerCfg) (hs : List Header) (key : String) (hk : key ≠ "Set-Cookie") :
    hget (stack.flatMap cookieOf ++ hs) key = hget hs key :=
  hget_append_of_ne _ _ _ fun _ hm e => hk (e ▸ fst_of_mem_cookies hm)

theorem expectBody_decorate (stack : List LayerCfg) (x : Resp) (c : Nat) :
    expectBody c (decorate stack x).headers = expectBody c x.headers := by
  rw [decorate_eq, expectBody, expectBody, hget_cookies _ _ _ (by simp), hget_cookies _ _ _ (by simp)]

theorem wrapCaps_canHijack (k : Kind) (c : Caps) : (wrapCaps k c).canHijack = c.canHijack := by
  cases k <;> rfl

theorem wrapCaps_canFlush (k : Kind) (c : Caps) (hk : k ≠ Kind.buffer) : (wrapCaps k c).canFlush = c.canFlush := by
  cases k with
  | buffer => exact absurd rfl hk
  | _ => rfl

theorem capsThrough_canHijack (stack : List LayerCfg) (c : Caps) : (capsThrough stack c).canHijack = c.canHijack := by
  induction stack generalizing c with
  | nil => rfl
  | cons l ls ih => simp [ih, wrapCaps_canHijack]

theorem not_hasBuffer_cons {l : LayerCfg} {ls : List LayerCfg} :
    ¬ hasBuffer (l :: ls) ↔ l.kind ≠ Kind.buffer ∧ ¬ hasBuffer ls := by
  simp [hasBuffer]

theorem capsThrough_canFlush (stack : List LayerCfg) (c : Caps) (hb : ¬ hasBuffer stack) :
    (capsThrough stack c).canFlush = c.canFlush := by
  induction stack generalizing c with
  | nil => rfl
  | cons l ls ih =>
    obtain ⟨h1, h2⟩ := not_hasBuffer_cons.mp hb
    rw [capsThrough_cons, ih _ h2, wrapCaps_canFlush _ _ h1]

/-- what a passing layer makes of the result of its `next`: the retry loop of a buffer, then the relay outward -/
def step (l : LayerCfg) (r : Result) : Result := post l (retryMul l r)

theorem serve_cons_of_intervenes {l : LayerCfg} {req : Req} (hl : intervenes l req = true) (ls : List LayerCfg)
    (h : Req → Script) (c : Caps) :
    serve (l :: ls) h req c = { resp := interventionResp l, invoked := 0, seen := none, hijacked := false, flushed := false,
                                infos := [], explicit := true } := by
  rw [serve, if_pos hl]

theorem serve_cons_of_passes {l : LayerCfg} {req : Req} (hl : intervenes l req = false) (ls : List LayerCfg)
    (h : Req → Script) (c : Caps) : serve (l :: ls) h req c = step l (serve ls h req (wrapCaps l.kind c)) := by
  rw [serve, if_neg (by simp [hl]), step]

theorem serve_append (outer rest : List LayerCfg) (h : Req → Script) (req : Req) (c : Caps)
    (hout : ∀ l ∈ outer, intervenes l req = false) :
    serve (outer ++ rest) h req c = outer.foldr step (serve rest h req (capsThrough outer c)) := by
  induction outer generalizing c with
  | nil => rfl
  | cons l ls ih =>
    rw [List.cons_append, serve_cons_of_passes (hout l (by simp)), ih _ (fun x hx => hout x (by simp [hx]))]
    rfl

theorem retryBuf_of_not_buffer {l : LayerCfg} (hk : l.kind ≠ Kind.buffer) : retryBuf l = false := by
  unfold retryBuf
  split
  · exact absurd ‹_› hk
  · rfl

theorem overflows_of_not_buffer {l : LayerCfg} (hk : l.kind ≠ Kind.buffer) (n : Nat) : overflows l n = false := by
  unfold overflows
  split
  · exact absurd ‹_› hk
  · rfl

theorem relayHeaderCalls_of_not_buffer {l : LayerCfg} (hk : l.kind ≠ Kind.buffer) (r : Result) :
    relayHeaderCalls l r = r := by
  unfold relayHeaderCalls
  split
  · exact absurd ‹_› hk
  · rfl

theorem step_of_hijacked (l : LayerCfg) (r : Result) (hh : r.hijacked = true) : step l r = r := by
  have hr : retryable l r = false := by simp [retryable, hh]
  rw [step, retryMul, if_neg (by simp [hr]), post, if_pos hh]

theorem step_of_overflows (l : LayerCfg) (r : Result) (hh : r.hijacked = false)
    (ho : overflows l r.resp.body.length = true) :
    step l r = { r with resp := internalError, infos := [], explicit := true } := by
  have hr : retryable l r = false := by simp [retryable, ho]
  rw [step, retryMul, if_neg (by simp [hr]), post, if_neg (by simp [hh]), if_pos ho]

theorem retryMul_plain (l : LayerCfg) (x : Result) (hx : x.hijacked = false)
    (ho : overflows l x.resp.body.length = false) :
    retryMul l x = { x with invoked := (if (retryBuf l && netErr x.resp.status) = true then 3 else 1) * x.invoked } := by
  have hr : retryable l x = (retryBuf l && netErr x.resp.status) := by simp [retryable, hx, ho]
  rw [retryMul, hr]
  split
  · rfl
  · rw [Nat.one_mul]

theorem step_of_fits (l : LayerCfg) (r : Result) (hh : r.hijacked = false) (ho : overflows l r.resp.body.length = false) :
    step l r = relayHeaderCalls l
      { r with resp := decorate1 l r.resp,
               invoked := (if (retryBuf l && netErr r.resp.status) = true then 3 else 1) * r.invoked } := by
  rw [step, retryMul_plain l r hh ho, post, if_neg (by simp [hh]), if_neg (by simp [ho])]

theorem step_of_not_buffer (l : LayerCfg) (r : Result) (hk : l.kind ≠ Kind.buffer) (hh : r.hijacked = false) :
    step l r = { r with resp := decorate1 l r.resp } := by
  rw [step_of_fits l r hh (overflows_of_not_buffer hk _), relayHeaderCalls_of_not_buffer hk, retryBuf_of_not_buffer hk,
    Bool.false_and, if_neg Bool.false_ne_true, Nat.one_mul]

theorem relayHeaderCalls_body (l : LayerCfg) (r : Result) (hk : l.kind = Kind.buffer) :
    (relayHeaderCalls l r).resp.body = if expectBody (bwCode r) r.resp.headers = true then r.resp.body else [] := by
  simp only [relayHeaderCalls, hk]
  cases r.explicit <;> cases r.infos.getLast? <;> cases expectBody (bwCode r) r.resp.headers <;> rfl

/-- What a buffer needs of the result of `next` to hand it on as it is: a final `WriteHeader` (or no 1xx and the implicit
200), and a body that `expectBody` keeps (or none). -/
structure Relayable (r : Result) : Prop where
  final : r.explicit = true ∨ (r.infos = [] ∧ r.resp.status = 200)
  body : r.resp.body = [] ∨ expectBody r.resp.status r.resp.headers = true

theorem relayHeaderCalls_of_relayable (l : LayerCfg) (r : Result) (hk : l.kind = Kind.buffer) (hr : Relayable r) :
    relayHeaderCalls l r = { r with infos := [], explicit := true } := by
  obtain ⟨⟨status, headers, body⟩, inv, seen, hij, fl, infos, ex⟩ := r
  obtain ⟨hf, hb⟩ := hr
  simp only at hf hb
  -- in both cases `bwCode` is `status`, and either the body is empty already or `expectBody` keeps it
  cases ex
  · obtain ⟨rfl, rfl⟩ : infos = [] ∧ status = 200 := by simpa using hf
    rcases hb with rfl | he <;> simp [relayHeaderCalls, bwCode, *]
  · rcases hb with rfl | he <;> simp [relayHeaderCalls, bwCode, *]

theorem decorate1_of_buffer {l : LayerCfg} (hk : l.kind = Kind.buffer) (x : Resp) : decorate1 l x = x := by
  simp [decorate1, cookieOf, hk]

theorem step_of_buffer (l : LayerCfg) (r : Result) (hk : l.kind = Kind.buffer) (hh : r.hijacked = false)
    (ho : overflows l r.resp.body.length = false) (hr : Relayable r) :
    step l r = { r with resp := decorate1 l r.resp, infos := [], explicit := true,
                        invoked := (if (retryBuf l && netErr r.resp.status) = true then 3 else 1) * r.invoked } := by
  rw [step_of_fits l r hh ho]
  exact relayHeaderCalls_of_relayable l _ hk ⟨hr.final, by rw [decorate1_of_buffer hk]; exact hr.body⟩

/-- number of handler runs caused by the retrying buffers of `outer` for a response with this status -/
def attemptsThrough : List LayerCfg → Nat → Nat
  | [], _ => 1
  | l :: ls, status => (if (retryBuf l && netErr status) = true then 3 else 1) * attemptsThrough ls status

theorem attemptsThrough_cons (l : LayerCfg) (ls : List LayerCfg) (status : Nat) :
    attemptsThrough (l :: ls) status = (if (retryBuf l && netErr status) = true then 3 else 1) * attemptsThrough ls status := rfl

theorem attemptsThrough_one (outer : List LayerCfg) (status : Nat)
    (h : ∀ l ∈ outer, (retryBuf l && netErr status) = false) : attemptsThrough outer status = 1 := by
  induction outer with
  | nil => rfl
  | cons l ls ih =>
    have h1 := h l (by simp)
    have h2 := ih (fun x hx => h x (by simp [hx]))
    simp [attemptsThrough, h1, h2]

theorem attemptsThrough_pow (outer : List LayerCfg) (status : Nat) (h : netErr status = true) :
    attemptsThrough outer status = 3 ^ outer.countP retryBuf := by
  induction outer with
  | nil => rfl
  | cons l ls ih =>
    cases hb : retryBuf l
    · simp [attemptsThrough, hb, ih]
    · simp [attemptsThrough, hb, h, ih, Nat.pow_succ, Nat.mul_comm]

/-- 1xx calls still arriving at the outside of `outer`: a buffer swallows them -/
def infosThrough : List LayerCfg → List Nat → List Nat
  | [], i => i
  | l :: ls, i => if l.kind = Kind.buffer then [] else infosThrough ls i

/-- is the final `WriteHeader` explicit at the outside of `outer`: a buffer always issues one -/
def explicitThrough : List LayerCfg → Bool → Bool
  | [], e => e
  | l :: ls, e => if l.kind = Kind.buffer then true else explicitThrough ls e

theorem infosThrough_buffer (l : LayerCfg) (ls : List LayerCfg) (i : List Nat) (hk : l.kind = Kind.buffer) :
    infosThrough (l :: ls) i = [] := if_pos hk

theorem infosThrough_other (l : LayerCfg) (ls : List LayerCfg) (i : List Nat) (hk : ¬ l.kind = Kind.buffer) :
    infosThrough (l :: ls) i = infosThrough ls i := if_neg hk

theorem explicitThrough_buffer (l : LayerCfg) (ls : List LayerCfg) (e : Bool) (hk : l.kind = Kind.buffer) :
    explicitThrough (l :: ls) e = true := if_pos hk

theorem explicitThrough_other (l : LayerCfg) (ls : List LayerCfg) (e : Bool) (hk : ¬ l.kind = Kind.buffer) :
    explicitThrough (l :: ls) e = explicitThrough ls e := if_neg hk

theorem infosThrough_nil (outer : List LayerCfg) : infosThrough outer [] = [] := by
  induction outer with
  | nil => rfl
  | cons l ls ih => simp [infosThrough, ih]

theorem explicitThrough_true (outer : List LayerCfg) : explicitThrough outer true = true := by
  induction outer with
  | nil => rfl
  | cons l ls ih => simp [explicitThrough, ih]

theorem infosThrough_noBuffer (outer : List LayerCfg) (i : List Nat) (hb : ¬ hasBuffer outer) : infosThrough outer i = i := by
  induction outer with
  | nil => rfl
  | cons l ls ih =>
    obtain ⟨h1, h2⟩ := not_hasBuffer_cons.mp hb
    rw [infosThrough_other _ _ _ h1, ih h2]

theorem explicitThrough_noBuffer (outer : List LayerCfg) (e : Bool) (hb : ¬ hasBuffer outer) : explicitThrough outer e = e := by
  induction outer with
  | nil => rfl
  | cons l ls ih =>
    obtain ⟨h1, h2⟩ := not_hasBuffer_cons.mp hb
    rw [explicitThrough_other _ _ _ h1, ih h2]

theorem expectBody_internalError : expectBody internalError.status internalError.headers = true := by
  simp [expectBody, internalError, sniffed, hget]

/-- the result `r` of the inner layers as it leaves `outer` when every layer of `outer` relays it -/
def relayed (outer : List LayerCfg) (r : Result) : Result :=
  { r with resp := decorate outer r.resp, infos := infosThrough outer r.infos, explicit := explicitThrough outer r.explicit,
           invoked := attemptsThrough outer r.resp.status * r.invoked }

theorem Relayable.through {r : Result} (hr : Relayable r) (outer : List LayerCfg) : Relayable (relayed outer r) := by
  refine ⟨?_, ?_⟩
  · rcases hr.final with h | ⟨h1, h2⟩
    · exact Or.inl (by simp [relayed, h, explicitThrough_true])
    · cases he : explicitThrough outer r.explicit
      · exact Or.inr ⟨by simp [relayed, h1, infosThrough_nil], by simpa [relayed, decorate_status] using h2⟩
      · exact Or.inl he
  · rcases hr.body with h | h
    · exact Or.inl (by simpa [relayed, decorate_body] using h)
    · exact Or.inr (by simpa [relayed, decorate_status, expectBody_decorate] using h)

theorem foldr_step_of_hijacked (outer : List LayerCfg) (r : Result) (hh : r.hijacked = true) :
    outer.foldr step r = r := by
  induction outer with
  | nil => rfl
  | cons l ls ih => rw [List.foldr_cons, ih, step_of_hijacked l r hh]

theorem foldr_step_relayed (outer : List LayerCfg) (r : Result) (hh : r.hijacked = false)
    (ho : ∀ l ∈ outer, overflows l r.resp.body.length = false) (hb : hasBuffer outer → Relayable r) :
    outer.foldr step r = relayed outer r := by
  induction outer with
  | nil => simp [relayed, attemptsThrough, infosThrough, explicitThrough]
  | cons l ls ih =>
    rw [List.foldr_cons, ih (fun x hx => ho x (by simp [hx])) (fun ⟨x, hx, e⟩ => hb ⟨x, by simp [hx], e⟩)]
    by_cases hk : l.kind = Kind.buffer
    · rw [step_of_buffer l (relayed ls r) hk hh (by simpa [relayed, decorate_body] using ho l (by simp))
        ((hb ⟨l, by simp, hk⟩).through ls)]
      simp only [relayed, infosThrough_buffer _ _ _ hk, explicitThrough_buffer _ _ _ hk, attemptsThrough_cons, decorate_cons,
        decorate_status, Nat.mul_assoc]
    · rw [step_of_not_buffer l (relayed ls r) hk hh]
      simp only [relayed, infosThrough_other _ _ _ hk, explicitThrough_other _ _ _ hk, attemptsThrough_cons, decorate_cons,
        retryBuf_of_not_buffer hk, Bool.false_and, Bool.false_eq_true, if_false, Nat.one_mul]

/-- every passing stack, behind any front writer: what the handler wrote on a hijacked connection, or its result relayed -/
theorem serve_passing (front : Caps) (stack : List LayerCfg) (h : Req → Script) (req : Req)
    (hp : ∀ l ∈ stack, intervenes l req = false ∧ overflows l (scriptResp (h req)).body.length = false)
    (hrel : hasBuffer stack → ∀ c f,
      Relayable { resp := scriptResp (h req), invoked := 1, seen := c, hijacked := false, flushed := f,
                  infos := (h req).info, explicit := (h req).status.isSome }) :
    serve stack h req front =
      if ((h req).hijack && (capsThrough stack front).canHijack) = true then
        { resp := scriptResp (h req), invoked := 1, seen := some (capsThrough stack front), hijacked := true,
          flushed := false, infos := [], explicit := true }
      else relayed stack
        { resp := scriptResp (h req), invoked := 1, seen := some (capsThrough stack front), hijacked := false,
          flushed := flushRequested (h req) && (capsThrough stack front).canFlush, infos := (h req).info,
          explicit := (h req).status.isSome } := by
  have hs := serve_append stack [] h req front (fun l hl => (hp l hl).1)
  rw [List.append_nil] at hs
  rw [hs, serve, runHandler]
  split
  · exact foldr_step_of_hijacked _ _ rfl
  · exact foldr_step_relayed _ _ rfl (fun l hl => (hp l hl).2) (fun hb => hrel hb _ _)

theorem eff_kind (l : LayerCfg) (n : Nat) : (eff l n).kind = l.kind := by
  unfold eff; split <;> rfl

section
variable {l : LayerCfg} {ls : List LayerCfg} {st : List Nat} {h : Req → Script} {req : Req} {c : Caps}

theorem hd0_cons (a : Nat) (t : List Nat) : hd0 (a :: t) = a := rfl

theorem effStack_cons (l : LayerCfg) (ls : List LayerCfg) (st : List Nat) :
    effStack (l :: ls) st = eff l (hd0 st) :: effStack ls st.tail := rfl

theorem post_eff (l : LayerCfg) (n : Nat) (r : Result) : post (eff l n) r = post l r := by
  unfold eff; split <;> rfl

theorem retryBuf_eff (l : LayerCfg) (n : Nat) : retryBuf (eff l n) = retryBuf l := by
  unfold eff; split <;> rfl

theorem overflows_eff (l : LayerCfg) (n k : Nat) : overflows (eff l n) k = overflows l k := by
  unfold eff; split <;> rfl

theorem retryable_eff (l : LayerCfg) (n : Nat) (x : Result) : retryable (eff l n) x = retryable l x := by
  unfold retryable; rw [retryBuf_eff, overflows_eff]

theorem step_eff (l : LayerCfg) (n : Nat) (r : Result) : step (eff l n) r = step l r := by
  rw [step, step, retryMul, retryMul, retryable_eff, post_eff]

theorem retryBuf_of_retryable {l : LayerCfg} {r : Result} (h : retryable l r = true) : retryBuf l = true := by
  simp only [retryable, Bool.and_eq_true] at h
  exact h.1.1.1

theorem serve_effStack_of_passes (hi : intervenes (eff l (hd0 st)) req = false) :
    serve (effStack (l :: ls) st) h req c = step l (serve (effStack ls st.tail) h req (wrapCaps l.kind c)) := by
  rw [effStack_cons, serve_cons_of_passes hi, step_eff, eff_kind]

theorem serveSt_cons_of_intervenes (hi : intervenes (eff l (hd0 st)) req = true) (abort : Bool) :
    serveSt (l :: ls) st h req abort c = (.served (serve (effStack (l :: ls) st) h req c), hd0 st :: st.tail) := by
  rw [effStack_cons, serve_cons_of_intervenes hi, serveSt]
  simp only [hi, if_true]

theorem serveSt_cons_once {x : Result} {s1 : List Nat} (hi : intervenes (eff l (hd0 st)) req = false)
    (k1 : serveSt ls st.tail h req false (wrapCaps l.kind c) = (.served x, s1)) (hr : retryable l x = false) :
    serveSt (l :: ls) st h req false c = (.served (step l x), leave l.kind (enter l.kind (hd0 st)) :: s1) := by
  rw [serveSt]
  simp only [hi, k1, Outcome.retryableBy, hr, Bool.false_eq_true, if_false, step, retryMul]

theorem serveSt_cons_thrice {x : Result} {s1 s2 s3 : List Nat} (hi : intervenes (eff l (hd0 st)) req = false)
    (k1 : serveSt ls st.tail h req false (wrapCaps l.kind c) = (.served x, s1))
    (k2 : serveSt ls s1 h req false (wrapCaps l.kind c) = (.served x, s2))
    (k3 : serveSt ls s2 h req false (wrapCaps l.kind c) = (.served x, s3)) (hr : retryable l x = true) :
    serveSt (l :: ls) st h req false c = (.served (step l x), leave l.kind (enter l.kind (hd0 st)) :: s3) := by
  rw [serveSt]
  simp only [hi, k1, k2, k3, Outcome.retryableBy, hr, if_true, Bool.false_eq_true, if_false, Outcome.addInvoked,
    Outcome.seenCaps, step, retryMul]
  -- what `addInvoked` has made of the third outcome is `retryMul l x`: the invocations …
  have hinv : x.invoked + (x.invoked + x.invoked) = 3 * x.invoked := by omega
  rw [hinv]
  -- … and `seen`, which every attempt reports alike
  cases x.seen <;> rfl

end

/-- what an admitted request leaves behind in the layers it passed, whether it returns or panics -/
def stateAfter : List LayerCfg → List Nat → List Nat
  | [], _ => []
  | l :: ls, st => leave l.kind (enter l.kind (hd0 st)) :: stateAfter ls st.tail

theorem serveSt_aborted (stack : List LayerCfg) (st : List Nat) (h : Req → Script) (req : Req) (c : Caps)
    (hp : ∀ l ∈ effStack stack st, intervenes l req = false) :
    serveSt stack st h req true c = (.aborted 1, stateAfter stack st) := by
  induction stack generalizing st c with
  | nil => simp [serveSt, stateAfter]
  | cons l ls ih =>
    have h1 : intervenes (eff l (hd0 st)) req = false := hp _ (by simp [effStack])
    have h2 : ∀ x ∈ effStack ls st.tail, intervenes x req = false := fun x hx => hp x (by simp [effStack, hx])
    simp [serveSt, h1, ih _ _ h2, stateAfter, Outcome.retryableBy]

/-- `2 ≤ n`: a rate limiter still passes after one token is spent only if two were left -/
theorem eff_after (l : LayerCfg) (n : Nat) (hb : l.kind = Kind.ratelimit → 2 ≤ n) :
    eff l (leave l.kind (enter l.kind n)) = eff l n := by
  unfold eff
  split
  · -- `n + 1 - 1`
    rename_i hk
    rw [hk]; rfl
  · -- `n - 1` and `n` are both positive
    rename_i hk
    have h2 : 2 ≤ n := hb hk
    rw [hk, show leave Kind.ratelimit (enter Kind.ratelimit n) = n - 1 from rfl,
      decide_eq_false (by omega : ¬ n - 1 = 0), decide_eq_false (by omega : ¬ n = 0)]
  · rfl

/-- `ample stack st`: every rate limiter of the stack has at least two tokens left -/
def ample : List LayerCfg → List Nat → Prop
  | [], _ => True
  | l :: ls, st => (l.kind = Kind.ratelimit → 2 ≤ hd0 st) ∧ ample ls st.tail

theorem effStack_after (stack : List LayerCfg) (st : List Nat) (hb : ample stack st) :
    effStack stack (stateAfter stack st) = effStack stack st := by
  induction stack generalizing st with
  | nil => rfl
  | cons l ls ih =>
    obtain ⟨h1, h2⟩ := hb
    rw [stateAfter, effStack_cons, effStack_cons, hd0_cons, List.tail_cons, eff_after l _ h1, ih _ h2]

-- not without `hc`: on two rate tokens inside a retrying buffer `serveSt` answers 429 after two invocations, `serve` 504 after three
/-- rate tokens are the only state a request leaves behind, so every attempt meets the same effective configuration -/
theorem serveSt_eq_serve (stack : List LayerCfg) (st : List Nat) (h : Req → Script) (req : Req) (c : Caps)
    (hc : stack.Pairwise fun l x => retryBuf l = true → x.kind ≠ Kind.ratelimit) :
    (serveSt stack st h req false c).1 = .served (serve (effStack stack st) h req c)
    ∧ ((∀ x ∈ stack, x.kind ≠ Kind.ratelimit) → effStack stack (serveSt stack st h req false c).2 = effStack stack st) := by
  induction stack generalizing st c with
  | nil => exact ⟨rfl, fun _ => rfl⟩
  | cons l ls ih =>
    obtain ⟨hl, hls⟩ := List.pairwise_cons.mp hc
    cases hi : intervenes (eff l (hd0 st)) req
    · have hstate : (∀ x ∈ l :: ls, x.kind ≠ Kind.ratelimit) → ∀ s, effStack ls s = effStack ls st.tail →
          effStack (l :: ls) (leave l.kind (enter l.kind (hd0 st)) :: s) = effStack (l :: ls) st := fun hn s e => by
        rw [effStack_cons, effStack_cons, hd0_cons, List.tail_cons, e,
          eff_after l _ (fun hk => absurd hk (hn l List.mem_cons_self))]
      generalize hx : serve (effStack ls st.tail) h req (wrapCaps l.kind c) = x
      -- an attempt that starts in a state with the effective configuration of `st.tail` answers `x`
      have attempt : ∀ s : List Nat, effStack ls s = effStack ls st.tail →
          ∃ s', serveSt ls s h req false (wrapCaps l.kind c) = (.served x, s')
            ∧ ((∀ y ∈ ls, y.kind ≠ Kind.ratelimit) → effStack ls s' = effStack ls st.tail) := by
        intro s hs
        obtain ⟨ho, he⟩ := ih s (wrapCaps l.kind c) hls
        rw [hs] at ho he
        exact ⟨_, Prod.ext (by rw [ho, hx]) rfl, he⟩
      obtain ⟨s1, k1, e1⟩ := attempt st.tail rfl
      rw [serve_effStack_of_passes hi, hx]
      cases hr : retryable l x
      · rw [serveSt_cons_once hi k1 hr]
        exact ⟨rfl, fun hn => hstate hn s1 (e1 fun y hy => hn y (List.mem_cons_of_mem _ hy))⟩
      · -- the buffer retries: no rate limiter inside it
        have hn : ∀ y ∈ ls, y.kind ≠ Kind.ratelimit := fun y hy => hl y hy (retryBuf_of_retryable hr)
        obtain ⟨s2, k2, e2⟩ := attempt s1 (e1 hn)
        obtain ⟨s3, k3, e3⟩ := attempt s2 (e2 hn)
        rw [serveSt_cons_thrice hi k1 k2 k3 hr]
        exact ⟨rfl, fun hn' => hstate hn' s3 (e3 hn)⟩
    · rw [serveSt_cons_of_intervenes hi]
      exact ⟨rfl, fun _ => rfl⟩

end Stack
