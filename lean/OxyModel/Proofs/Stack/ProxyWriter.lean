import OxyModel.Model.Writer

/-! `utils.ProxyWriter` (`Model/Writer.lean`), the writer that `trace`, `cbreaker` and the `Rebalancer` hand inward: `call` and
`run` in closed form, and the recorded status against the status on the wire. -/
namespace Writer

/-- what one call does to the fields of one ProxyWriter -/
def PW.record (p : PW) : Call → PW
  | .writeHeader code => { p with code := code }
  | .write b => { p with length := p.length + b.length }
  | _ => p

theorem call_eq (base : Base) (pws : List PW) (c : Call) :
    call base pws c = (pws.map (·.record c), if deliverable base c then [c] else [],
      match c with | .flush => base.flusher || !pws.isEmpty | c => deliverable base c) := by
  obtain ⟨fl, hj⟩ := base
  induction pws with
  | nil =>
    -- the caller holds the base writer: `reach` is the type assertion
    cases c with
    | flush => cases fl <;> rfl
    | hijack => cases hj <;> rfl
    | _ => rfl
  | cons p rest ih =>
    cases c with
    | flush => rw [call, ih]; simp [PW.record]
    | _ => rw [call, ih]; rfl

theorem run_eq (base : Base) (s : St) (cs : List Call) :
    run base s cs = ⟨s.pws.map fun p => cs.foldl PW.record p, s.seen ++ cs.filter (deliverable base)⟩ := by
  induction cs generalizing s with
  | nil => simp [run]
  | cons c cs ih =>
    have hstep : run base s (c :: cs) = run base (s.step base c).1 cs := rfl
    rw [hstep, ih, St.step, call_eq, List.filter_cons]
    cases deliverable base c <;> simp

theorem lastCode_cons (c : Call) (cs : List Call) :
    lastCode (c :: cs) = (lastCode cs).or (match c with | .writeHeader k => some k | _ => none) := by
  show (match lastCode cs with | some k => some k | none => _) = _
  cases lastCode cs <;> rfl

theorem foldl_record_code (p : PW) (cs : List Call) :
    (cs.foldl PW.record p).code = (lastCode cs).getD p.code := by
  induction cs generalizing p with
  | nil => rfl
  | cons c cs ih =>
    rw [List.foldl_cons, ih, lastCode_cons]
    cases lastCode cs with
    | some k => rfl
    | none => cases c <;> rfl

theorem foldl_record_length (p : PW) (cs : List Call) :
    (cs.foldl PW.record p).length = p.length + written cs := by
  induction cs generalizing p with
  | nil => rfl
  | cons c cs ih =>
    rw [List.foldl_cons, ih]
    cases c with
    | write b => exact Nat.add_assoc ..
    | _ => rfl

theorem final_recv_of_not_header (w : Wire) (c : Call) (h : ∀ k, c ≠ .writeHeader k) : (w.recv c).final = w.final := by
  cases c with
  | writeHeader k => exact absurd rfl (h k)
  | write b => simp [Wire.recv, Wire.final]
  | flush => simp [Wire.recv, Wire.final]
  | hijack => rfl

theorem noHeader_cons (c : Call) (cs : List Call) : noHeader (c :: cs) = true ↔ (∀ k, c ≠ .writeHeader k) ∧ noHeader cs = true := by
  rw [noHeader, List.all_cons, Bool.and_eq_true]
  refine and_congr_left' ?_
  cases c with
  | writeHeader k => exact ⟨nofun, fun h => absurd rfl (h k)⟩
  | _ => exact ⟨fun _ _ => nofun, fun _ => rfl⟩

theorem final_foldl_noHeader (w : Wire) (cs : List Call) (h : noHeader cs = true) : (cs.foldl Wire.recv w).final = w.final := by
  induction cs generalizing w with
  | nil => rfl
  | cons c cs ih =>
    rw [noHeader_cons] at h
    rw [List.foldl_cons, ih _ h.2, final_recv_of_not_header _ _ h.1]

theorem lastCode_noHeader (cs : List Call) (h : noHeader cs = true) : lastCode cs = none := by
  induction cs with
  | nil => rfl
  | cons c cs ih =>
    rw [noHeader_cons] at h
    rw [lastCode_cons, ih h.2]
    cases c with
    | writeHeader k => exact absurd rfl (h.1 k)
    | _ => rfl

theorem final_eq_recorded_of_noHeader (cs : List Call) (w : Wire) (hw : w.status = none) (h : noHeader cs = true) :
    (cs.foldl Wire.recv w).final = recorded cs := by
  rw [final_foldl_noHeader w cs h, recorded, lastCode_noHeader cs h, Wire.final, hw]
  rfl

theorem lastCode_cons_of_isSome (c : Call) {cs : List Call} (h : (lastCode cs).isSome) : lastCode (c :: cs) = lastCode cs := by
  obtain ⟨k, hk⟩ := Option.isSome_iff_exists.mp h
  rw [lastCode_cons, hk]
  rfl

theorem recorded_cons_of_some (c : Call) {cs : List Call} (h : (lastCode cs).isSome) : recorded (c :: cs) = recorded cs := by
  rw [recorded, recorded, lastCode_cons_of_isSome c h]

/-- `(lastCode cs).isSome` is the strengthening the induction needs: the head call is then not the last `WriteHeader` -/
theorem final_eq_recorded_of_headerFollows (cs : List Call) (w : Wire) (hw : w.status = none) (h : headerFollows cs = true) :
    (cs.foldl Wire.recv w).final = recorded cs ∧ (lastCode cs).isSome := by
  induction cs generalizing w with
  | nil => simp [headerFollows] at h
  | cons c cs ih =>
    -- a first call that leaves the wire's status open: the tail decides both sides
    have tail_decides : (w.recv c).status = none → headerFollows cs = true →
        ((c :: cs).foldl Wire.recv w).final = recorded (c :: cs) ∧ (lastCode (c :: cs)).isSome := fun hw' h' => by
      obtain ⟨hfin, hlast⟩ := ih (w.recv c) hw' h'
      exact ⟨by rw [List.foldl_cons, hfin, recorded_cons_of_some c hlast], by rw [lastCode_cons_of_isSome c hlast]; exact hlast⟩
    cases c with
    | writeHeader k =>
      simp only [headerFollows] at h
      by_cases hi : informational k = true
      · rw [if_pos hi] at h
        exact tail_decides (by simp [Wire.recv, hw, hi]) h
      · -- the final `WriteHeader`: it fixes the wire's status, and no later one overwrites the record
        simp only [hi, Bool.false_eq_true, if_false, Bool.and_eq_true, decide_eq_true_eq] at h
        have hk0 : k ≠ 0 := by omega
        have hc : lastCode (.writeHeader k :: cs) = some k := by rw [lastCode_cons, lastCode_noHeader _ h.2]; rfl
        refine ⟨?_, by rw [hc]; rfl⟩
        rw [List.foldl_cons, final_foldl_noHeader _ _ h.2, recorded, hc]
        simp [Wire.recv, hw, hi, Wire.final, hk0]
    | hijack => exact tail_decides hw h
    | write b => simp [headerFollows] at h
    | flush => simp [headerFollows] at h

theorem orderly_eq (cs : List Call) : orderly cs = (headerFollows cs || noHeader cs) := by
  induction cs with
  | nil => rfl
  | cons c cs ih =>
    cases c with
    | writeHeader k => exact (Bool.or_false _).symm
    | hijack => exact ih
    | write b => rfl
    | flush => rfl

theorem final_eq_recorded_of_orderly (cs : List Call) (w : Wire) (hw : w.status = none) (h : orderly cs = true) :
    (cs.foldl Wire.recv w).final = recorded cs := by
  rw [orderly_eq, Bool.or_eq_true] at h
  rcases h with h | h
  · exact (final_eq_recorded_of_headerFollows cs w hw h).1
  · exact final_eq_recorded_of_noHeader cs w hw h

end Writer
