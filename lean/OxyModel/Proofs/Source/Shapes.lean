import OxyModel.Proofs.Source.Split

/-! Textual shapes of the peer addresses an HTTP server produces (`net.TCPAddr.String()`) and the facts about
them that the extractor theorems need; then what `extractClientIP` does on each outcome of the split
(`extractClientIP_of_split*`) and `headerGet` on a list of header lines (`headerGet_*`); last `newExtractor`:
its three literals and the exact set of variables it accepts. -/
namespace Source

def hexDigit (c : Char) : Bool := c.isDigit || ('a' ≤ c && c ≤ 'f') || ('A' ≤ c && c ≤ 'F')

/-- dotted decimal: non-empty, digits and dots -/
def isIPv4 (s : Str) : Bool := !s.isEmpty && s.all fun c => c.isDigit || c == '.'

/-- IPv6 text: hex digits, colons (at least one), dots (v4-mapped tail) -/
def isIPv6 (s : Str) : Bool := s.contains ':' && s.all fun c => hexDigit c || c == ':' || c == '.'

/-- a zone (interface name or index): non-empty, no brackets -/
def isZone (z : Str) : Bool := !z.isEmpty && z.all fun c => c != '[' && c != ']'

/-- IPv6 with zone: `<ipv6>%<zone>`, split at the last `%` as `net.splitHostZone` does -/
def isIPv6Zone (s : Str) : Bool :=
  match lastIndexOf '%' s with
  | some i => isIPv6 (s.take i) && isZone (s.drop (i + 1))
  | none => false

/-- decimal port -/
def isPort (p : Str) : Bool := p.all Char.isDigit

theorem not_mem_of_all {f : Char → Bool} {s : Str} {c : Char} (h : s.all f = true) (hc : f c = false) : c ∉ s := by
  intro hm
  have := List.all_eq_true.1 h c hm
  rw [hc] at this; cases this

theorem isPort_plain {p : Str} (h : isPort p = true) : plain p :=
  ⟨not_mem_of_all h (by decide +kernel), not_mem_of_all h (by decide +kernel), not_mem_of_all h (by decide +kernel)⟩

theorem isIPv4_spec {s : Str} (h : isIPv4 s = true) : s ≠ [] ∧ plain s := by
  simp only [isIPv4, Bool.and_eq_true] at h
  refine ⟨?_, not_mem_of_all h.2 (by decide +kernel), not_mem_of_all h.2 (by decide +kernel), not_mem_of_all h.2 (by decide +kernel)⟩
  intro he; subst he; simp at h

theorem isIPv6_spec {s : Str} (h : isIPv6 s = true) : s ≠ [] ∧ noBrackets s ∧ ':' ∈ s := by
  simp only [isIPv6, Bool.and_eq_true] at h
  have hc : ':' ∈ s := by simpa using h.1
  refine ⟨?_, ⟨not_mem_of_all h.2 (by decide +kernel), not_mem_of_all h.2 (by decide +kernel)⟩, hc⟩
  intro he; subst he; simp at hc

theorem isIPv6Zone_spec {s : Str} (h : isIPv6Zone s = true) : s ≠ [] ∧ noBrackets s ∧ ':' ∈ s := by
  unfold isIPv6Zone at h
  cases hl : lastIndexOf '%' s with
  | none => simp [hl] at h
  | some i =>
    obtain ⟨a, z, rfl, _, rfl⟩ := lastIndexOf_some hl
    simp only [hl, Bool.and_eq_true, List.take_left'] at h
    obtain ⟨_, ⟨a1, a2⟩, a3⟩ := isIPv6_spec h.1
    have hz : isZone z = true := by simpa using h.2
    simp only [isZone, Bool.and_eq_true] at hz
    have z1 : '[' ∉ z := not_mem_of_all hz.2 (by decide +kernel)
    have z2 : ']' ∉ z := not_mem_of_all hz.2 (by decide +kernel)
    exact ⟨by simp, ⟨by simp [a1, z1], by simp [a2, z2]⟩, List.mem_append_left _ a3⟩

/-- the three shapes of a peer IP -/
def isPeerIP (s : Str) : Bool := isIPv4 s || isIPv6 s || isIPv6Zone s

theorem isPeerIP_spec {s : Str} (h : isPeerIP s = true) : s ≠ [] ∧ noBrackets s := by
  simp only [isPeerIP, Bool.or_eq_true] at h
  rcases h with (h | h) | h
  · exact ⟨(isIPv4_spec h).1, (isIPv4_spec h).2.noBrackets⟩
  · exact ⟨(isIPv6_spec h).1, (isIPv6_spec h).2.1⟩
  · exact ⟨(isIPv6Zone_spec h).1, (isIPv6Zone_spec h).2.1⟩

theorem extractClientIP_of_split {ra h p : Str} (hs : splitHostPort ra = .ok (h, p)) (hh : h ≠ []) :
    extractClientIP ra = .ok (h, 1) := by
  simp [extractClientIP, hs, hh]

theorem extractClientIP_of_split_err {ra : Str} {e : SplitErr} (hs : splitHostPort ra = .error e) (hh : ra ≠ []) :
    extractClientIP ra = .ok (ra, 1) := by
  simp [extractClientIP, hs, hh]

theorem extractClientIP_of_split_nil {ra p : Str} (hs : splitHostPort ra = .ok ([], p)) :
    extractClientIP ra = .error .noClientIP := by
  simp [extractClientIP, hs]

theorem extractClientIP_amount {ra tok : Str} {a : Int} (h : extractClientIP ra = .ok (tok, a)) : a = 1 := by
  cases (ok_of_ite_error h).2; rfl

theorem extract_header (name : Str) (r : Req) : extract (.header name) r = .ok (headerGet r.headers name, 1) := rfl

theorem headerGet_cons_ne (a : Str × Str) (t : List (Str × Str)) (name : Str)
    (h : canonKey a.1 ≠ canonKey name) : headerGet (a :: t) name = headerGet t name := by
  simp [headerGet, h]

theorem headerGet_cons_eq (a : Str × Str) (t : List (Str × Str)) (name : Str)
    (h : canonKey a.1 = canonKey name) : headerGet (a :: t) name = a.2 := by
  simp [headerGet, h]

theorem headerGet_hit (pre post : List (Str × Str)) (n v name : Str)
    (hn : canonKey n = canonKey name) (hpre : ∀ q ∈ pre, canonKey q.1 ≠ canonKey name) :
    headerGet (pre ++ (n, v) :: post) name = v := by
  induction pre with
  | nil => exact headerGet_cons_eq (n, v) post name hn
  | cons a t ih =>
    rw [List.cons_append, headerGet_cons_ne _ _ _ (hpre a (by simp))]
    exact ih (fun q hq => hpre q (List.mem_cons_of_mem _ hq))

theorem headerGet_miss (hs : List (Str × Str)) (name : Str)
    (h : ∀ q ∈ hs, canonKey q.1 ≠ canonKey name) : headerGet hs name = [] := by
  induction hs with
  | nil => rfl
  | cons a t ih =>
    rw [headerGet_cons_ne _ _ _ (h a (by simp))]
    exact ih (fun q hq => h q (List.mem_cons_of_mem _ hq))

/-! The string literals of `newExtractor` become character lists here, once each: a literal unifies with
`String.ofList l` without being decoded.  Everything else goes through these equations and the distinctness facts
below: `rfl`, `decide`, `split`, a `rfl` pattern that substitutes a literal, or a `simp` that unfolds `headerPrefix`
would decode its bytes by `whnf`. -/

theorem clientVar_eq : "client.ip".toList = ['c','l','i','e','n','t','.','i','p'] := String.toList_ofList
theorem hostVar_eq : "request.host".toList = ['r','e','q','u','e','s','t','.','h','o','s','t'] := String.toList_ofList
theorem headerPrefix_eq : headerPrefix = ['r','e','q','u','e','s','t','.','h','e','a','d','e','r','.'] :=
  String.toList_ofList

theorem host_ne_client : "request.host".toList ≠ "client.ip".toList := by rw [hostVar_eq, clientVar_eq]; decide
theorem prefix_ne_client (name : Str) : headerPrefix ++ name ≠ "client.ip".toList := by
  rw [headerPrefix_eq, clientVar_eq]; exact fun h => absurd (List.cons.inj h).1 (by decide +kernel)  -- 'r' ≠ 'c'
theorem prefix_ne_host (name : Str) : headerPrefix ++ name ≠ "request.host".toList := by
  simp [headerPrefix_eq, hostVar_eq]

theorem newExtractor_client : newExtractor "client.ip".toList = .ok .clientIP := if_pos rfl

theorem newExtractor_host : newExtractor "request.host".toList = .ok .host :=
  (if_neg host_ne_client).trans (if_pos rfl)

theorem newExtractor_header (name : Str) (hne : name ≠ []) :
    newExtractor (headerPrefix ++ name) = .ok (.header name) := by
  have h3 : hasPrefix (headerPrefix ++ name) headerPrefix = true :=
    List.isPrefixOf_iff_prefix.2 (List.prefix_append _ _)
  rw [newExtractor, if_neg (prefix_ne_client name), if_neg (prefix_ne_host name), if_pos h3]
  simp only [List.drop_left]
  rw [if_neg hne]

theorem newExtractor_ok_iff (v : Str) (k : Kind) :
    newExtractor v = .ok k ↔
      (v = "client.ip".toList ∧ k = .clientIP) ∨ (v = "request.host".toList ∧ k = .host) ∨
      (∃ name, name ≠ [] ∧ v = headerPrefix ++ name ∧ k = .header name) := by
  constructor
  · intro h
    rw [newExtractor] at h
    by_cases h1 : v = "client.ip".toList
    · rw [if_pos h1] at h; cases h; exact .inl ⟨h1, rfl⟩
    rw [if_neg h1] at h
    by_cases h2 : v = "request.host".toList
    · rw [if_pos h2] at h; cases h; exact .inr (.inl ⟨h2, rfl⟩)
    rw [if_neg h2] at h
    by_cases hp : hasPrefix v headerPrefix = true
    · have hv := List.prefix_iff_eq_append.1 (List.isPrefixOf_iff_prefix.1 hp)
      rw [if_pos hp] at h
      obtain ⟨hne, h⟩ := ok_of_ite_error h
      cases h; exact .inr (.inr ⟨_, hne, hv.symm, rfl⟩)
    · rw [if_neg hp] at h; cases h
  · -- `hv ▸`, not `rfl` patterns: substituting a literal for `v` would have it decoded
    rintro (⟨hv, hk⟩ | ⟨hv, hk⟩ | ⟨name, hne, hv, hk⟩)
    · exact hv ▸ hk ▸ newExtractor_client
    · exact hv ▸ hk ▸ newExtractor_host
    · exact hv ▸ hk ▸ newExtractor_header name hne

end Source
