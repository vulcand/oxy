import OxyModel.Model.Source

/-! `net.SplitHostPort` on the model: search lemmas, the two address shapes split back (`split_plain`,
`split_bracket`, hence every joined address: `split_join`), and nothing else splits (`split_ok_spec`). -/
namespace Source

theorem cut_at {l a b : Str} {c : Char} {i : Nat} (hl : l = a ++ c :: b) (hi : a.length = i) :
    l.take i = a ∧ l.drop i = c :: b ∧ l.drop (i + 1) = b := by
  subst hl hi
  exact ⟨List.take_left, List.drop_left, by rw [List.append_cons, List.drop_left' (by simp)]⟩

theorem ok_of_ite_error {ε α : Type} {c : Prop} [Decidable c] {e : ε} {x : Except ε α} {r : α}
    (h : (if c then .error e else x) = .ok r) : ¬ c ∧ x = .ok r := by
  by_cases hc : c
  · rw [if_pos hc] at h; cases h
  · rw [if_neg hc] at h; exact ⟨hc, h⟩

theorem indexOf_eq_none {c : Char} {l : Str} : indexOf c l = none ↔ c ∉ l := by
  induction l with
  | nil => simp [indexOf]
  | cons x t ih =>
    by_cases h : x = c
    · simp [indexOf, h]
    · have h' : ¬ c = x := fun e => h e.symm
      simp [indexOf, h, h', ih]

theorem indexOf_isSome {c : Char} {l : Str} : (indexOf c l).isSome = true ↔ c ∈ l := by
  rw [Option.isSome_iff_ne_none, Ne, indexOf_eq_none, Classical.not_not]

theorem lastIndexOf_eq_none {c : Char} {l : Str} : lastIndexOf c l = none ↔ c ∉ l := by
  induction l with
  | nil => simp [lastIndexOf]
  | cons x t ih =>
    rw [lastIndexOf, List.mem_cons, not_or, ← ih]
    cases lastIndexOf c t with
    | some j => simp
    | none => simp [eq_comm]

theorem indexOf_some {c : Char} {l : Str} {e : Nat} (h : indexOf c l = some e) :
    ∃ a b, l = a ++ c :: b ∧ c ∉ a ∧ a.length = e := by
  induction l generalizing e with
  | nil => cases h
  | cons x t ih =>
    rw [indexOf] at h
    by_cases hx : x = c
    · rw [if_pos hx] at h; cases h; exact ⟨[], t, by rw [hx]; rfl, List.not_mem_nil, rfl⟩
    · rw [if_neg hx] at h
      cases ht : indexOf c t with
      | none => rw [ht] at h; cases h
      | some e' =>
        rw [ht] at h; cases h
        obtain ⟨a, b, rfl, hn, rfl⟩ := ih ht
        exact ⟨x :: a, b, rfl, by simp [Ne.symm hx, hn], rfl⟩

theorem lastIndexOf_some {c : Char} {l : Str} {i : Nat} (h : lastIndexOf c l = some i) :
    ∃ a b, l = a ++ c :: b ∧ c ∉ b ∧ a.length = i := by
  induction l generalizing i with
  | nil => cases h
  | cons x t ih =>
    rw [lastIndexOf] at h
    cases ht : lastIndexOf c t with
    | some j =>
      rw [ht] at h; cases h
      obtain ⟨a, b, rfl, hn, rfl⟩ := ih ht
      exact ⟨x :: a, b, rfl, hn, rfl⟩
    | none =>
      rw [ht] at h
      by_cases hx : x = c
      · rw [if_pos hx] at h; cases h; exact ⟨[], t, by rw [hx]; rfl, lastIndexOf_eq_none.1 ht, rfl⟩
      · rw [if_neg hx] at h; cases h

theorem indexOf_append_cons {c : Char} (a b : Str) (h : c ∉ a) : indexOf c (a ++ c :: b) = some a.length := by
  induction a with
  | nil => simp [indexOf]
  | cons x t ih =>
    simp at h
    have hx : ¬ x = c := fun e => h.1 e.symm
    simp [indexOf, hx, ih h.2]

theorem lastIndexOf_append_cons {c : Char} (a b : Str) (h : c ∉ b) :
    lastIndexOf c (a ++ c :: b) = some a.length := by
  induction a with
  | nil => simp [lastIndexOf, lastIndexOf_eq_none.2 h]
  | cons x t ih => simp [lastIndexOf, ih]

/-- no `':'`, `'['`, `']'` -/
def plain (s : Str) : Prop := ':' ∉ s ∧ '[' ∉ s ∧ ']' ∉ s

/-- no `'['`, `']'` -/
def noBrackets (s : Str) : Prop := '[' ∉ s ∧ ']' ∉ s

theorem plain.noBrackets {s : Str} (h : plain s) : noBrackets s := ⟨h.2.1, h.2.2⟩

theorem splitTail_of_not_mem {hp host : Str} {i j k : Nat} (h1 : '[' ∉ hp.drop j) (h2 : ']' ∉ hp.drop k) :
    splitTail hp host i j k = .ok (host, hp.drop (i + 1)) := by
  rw [splitTail, if_neg (fun h => h1 (indexOf_isSome.1 h)), if_neg (fun h => h2 (indexOf_isSome.1 h))]

theorem splitTail_ok {hp host h p : Str} {i j k : Nat} (hs : splitTail hp host i j k = .ok (h, p)) :
    '[' ∉ hp.drop j ∧ ']' ∉ hp.drop k ∧ h = host ∧ p = hp.drop (i + 1) := by
  obtain ⟨h1, hs⟩ := ok_of_ite_error hs
  obtain ⟨h2, hs⟩ := ok_of_ite_error hs
  cases hs
  exact ⟨mt indexOf_isSome.2 h1, mt indexOf_isSome.2 h2, rfl, rfl⟩

theorem split_plain (h p : Str) (hh : plain h) (hp : plain p) :
    splitHostPort (h ++ ':' :: p) = .ok (h, p) := by
  obtain ⟨h1, h2, h3⟩ := hh
  obtain ⟨p1, p2, p3⟩ := hp
  have hhead : ¬ (h ++ ':' :: p).head? = some '[' := by
    cases h with
    | nil => simp
    | cons x t => simp at h2 ⊢; exact fun e => h2.1 e.symm
  rw [splitHostPort, lastIndexOf_append_cons h p p1]
  simp only [if_neg hhead, List.take_left', indexOf_eq_none.2 h1, Option.isSome_none, Bool.false_eq_true, if_false]
  rw [splitTail_of_not_mem (by simp [h2, p2]) (by simp [h3, p3])]
  simp

theorem split_bracket (h p : Str) (hh : noBrackets h) (hp : plain p) :
    splitHostPort ('[' :: (h ++ ']' :: ':' :: p)) = .ok (h, p) := by
  obtain ⟨h2, h3⟩ := hh
  obtain ⟨p1, p2, p3⟩ := hp
  have hl : lastIndexOf ':' ('[' :: (h ++ ']' :: ':' :: p)) = some (h.length + 2) := by
    simpa using lastIndexOf_append_cons ('[' :: h ++ [']']) p p1
  have hi : indexOf ']' ('[' :: (h ++ ']' :: ':' :: p)) = some (h.length + 1) := by
    simpa using indexOf_append_cons (c := ']') ('[' :: h) (':' :: p) (by simp [h3])
  rw [splitHostPort, hl, hi]
  have hlen : ¬ (h.length + 1 + 1 = ('[' :: (h ++ ']' :: ':' :: p)).length) := by simp
  simp only [List.head?_cons, if_true, hlen, if_false]
  rw [splitTail_of_not_mem (by simp [h2, p2]) (by simp [p3])]
  simp

theorem split_join (ip port : Str) (hip : noBrackets ip) (hport : plain port) :
    splitHostPort (joinHostPort ip port) = .ok (ip, port) := by
  unfold joinHostPort
  split
  · exact split_bracket ip port hip hport
  · rename_i hc
    have : ':' ∉ ip := by intro hm; exact hc (indexOf_isSome.2 hm)
    exact split_plain ip port ⟨this, hip.1, hip.2⟩ hport

theorem split_ok_spec {hp h p : Str} (hs : splitHostPort hp = .ok (h, p)) :
    (hp = h ++ ':' :: p ∧ plain h ∧ plain p) ∨
    (hp = '[' :: (h ++ ']' :: ':' :: p) ∧ noBrackets h ∧ plain p) := by
  rw [splitHostPort] at hs
  cases hl : lastIndexOf ':' hp with
  | none => rw [hl] at hs; cases hs
  | some i =>
    simp only [hl] at hs
    -- `hp` is kept a variable while the definition is taken apart; its slices at the last `:` (and below at
    -- the first `]`) are read off `cut_at`
    obtain ⟨host, port, hcut, hport_colon, hlen⟩ := lastIndexOf_some hl
    obtain ⟨htake, hdrop, hport⟩ := cut_at hcut hlen
    by_cases hhead : hp.head? = some '['
    · rw [if_pos hhead] at hs
      cases he : indexOf ']' hp with
      | none => rw [he] at hs; cases hs
      | some e =>
        simp only [he] at hs
        obtain ⟨_, hs⟩ := ok_of_ite_error hs
        by_cases hei : e + 1 = i
        · -- `[host]:port`: the first `]` sits right before the last `:`
          rw [if_pos hei] at hs
          obtain ⟨hopen, hclose, rfl, rfl⟩ := splitTail_ok hs
          obtain ⟨front, rest, hcut', hfront_close, hlen'⟩ := indexOf_some he
          obtain ⟨htake', _, hrest⟩ := cut_at hcut' hlen'
          rw [hei, hdrop] at hrest hclose
          rw [htake', hport]
          subst hrest hcut'
          cases front with
          | nil => cases hhead
          | cons x h' =>
            cases hhead
            simp only [List.mem_cons, List.mem_append, not_or, List.cons_append, List.drop_succ_cons,
              List.drop_zero] at hopen hclose hfront_close
            exact .inr ⟨rfl, ⟨hopen.1, hfront_close.2⟩, hport_colon, hopen.2.2.2, hclose.2⟩
        · rw [if_neg hei] at hs; cases (ok_of_ite_error hs).2
    · rw [if_neg hhead] at hs
      obtain ⟨hhost_colon, hs⟩ := ok_of_ite_error hs
      obtain ⟨hopen, hclose, rfl, rfl⟩ := splitTail_ok hs
      rw [htake] at hhost_colon ⊢
      rw [hport]
      subst hcut
      simp only [List.drop_zero, List.mem_append, List.mem_cons, not_or] at hopen hclose
      exact .inl ⟨rfl, ⟨mt indexOf_isSome.2 hhost_colon, hopen.1, hclose.1⟩, hport_colon, hopen.2.2, hclose.2.2⟩

end Source
