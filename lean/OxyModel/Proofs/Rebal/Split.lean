import OxyModel.Model.Rebalancer
import Mathlib.Algebra.Order.Field.Rat

/-! `SplitFloat64` over rationals: with non-negative ratings at least one server is rated good, so
"some server is rated an outlier" always means a *mixed* marking. -/
namespace RB

theorem insertRat_perm (x : Rat) (l : List Rat) : (insertRat x l).Perm (x :: l) := by
  induction l with
  | nil => exact List.Perm.refl _
  | cons y ys ih =>
    unfold insertRat
    split
    · exact List.Perm.refl _
    · exact (List.Perm.cons y ih).trans (List.Perm.swap x y ys)

theorem sortRat_perm (l : List Rat) : (sortRat l).Perm l := by
  induction l with
  | nil => exact List.Perm.refl _
  | cons x xs ih => exact (insertRat_perm x _).trans (List.Perm.cons x ih)

theorem insertRat_sorted (x : Rat) (l : List Rat) (h : l.Pairwise (· ≤ ·)) :
    (insertRat x l).Pairwise (· ≤ ·) := by
  induction l with
  | nil => simp [insertRat]
  | cons y ys ih =>
    unfold insertRat
    split
    · rename_i hxy
      refine List.Pairwise.cons ?_ h
      intro z hz
      rcases List.mem_cons.mp hz with rfl | hz
      · exact hxy
      · exact le_trans hxy (List.rel_of_pairwise_cons h hz)
    · rename_i hxy
      have hyx : y ≤ x := le_of_lt (not_le.mp hxy)
      refine List.Pairwise.cons ?_ (ih (List.Pairwise.of_cons h))
      intro z hz
      have := (insertRat_perm x ys).mem_iff.mp hz
      rcases List.mem_cons.mp this with rfl | hz'
      · exact hyx
      · exact List.rel_of_pairwise_cons h hz'

theorem sortRat_sorted (l : List Rat) : (sortRat l).Pairwise (· ≤ ·) := by
  induction l with
  | nil => simp [sortRat]
  | cons x xs ih => exact insertRat_sorted x _ ih

theorem sortRat_length (l : List Rat) : (sortRat l).length = l.length := (sortRat_perm l).length_eq

theorem median_odd (vs : List Rat) (hodd : vs.length % 2 = 1) :
    ∃ h : vs.length / 2 < (sortRat vs).length, median vs = (sortRat vs)[vs.length / 2] := by
  have hl := sortRat_length vs
  have hpos : 0 < vs.length := Nat.pos_of_ne_zero fun h0 => by rw [h0] at hodd; cases hodd
  have hlt : vs.length / 2 < (sortRat vs).length := by rw [hl]; exact Nat.div_lt_self hpos Nat.one_lt_two
  refine ⟨hlt, ?_⟩
  unfold median
  simp only [hl]
  rw [if_pos (by rw [hodd]; exact Nat.one_ne_zero)]
  simp [List.getD_eq_getElem?_getD, hlt]

theorem median_mem (vs : List Rat) (hodd : vs.length % 2 = 1) : median vs ∈ vs := by
  obtain ⟨h, e⟩ := median_odd vs hodd
  rw [e]
  exact (sortRat_perm vs).mem_iff.mp (List.getElem_mem h)

theorem sorted_le_median (vs : List Rat) (hodd : vs.length % 2 = 1) (i : Nat) (hi : i ≤ vs.length / 2)
    (h : i < (sortRat vs).length) : (sortRat vs)[i] ≤ median vs := by
  obtain ⟨h2, e⟩ := median_odd vs hodd
  rw [e]
  rcases Nat.lt_or_eq_of_le hi with hlt | rfl
  · exact (List.pairwise_iff_getElem.mp (sortRat_sorted vs)) i (vs.length / 2) h h2 hlt
  · exact le_rfl

theorem half_le_median (vs : List Rat) (hodd : vs.length % 2 = 1) :
    vs.length / 2 + 1 ≤ vs.countP (· ≤ median vs) := by
  obtain ⟨h, _⟩ := median_odd vs hodd
  -- the first `length / 2 + 1` elements of the sorted list
  have hall : ∀ x ∈ (sortRat vs).take (vs.length / 2 + 1), decide (x ≤ median vs) = true := by
    intro x hx
    obtain ⟨j, hj, rfl⟩ := List.mem_take_iff_getElem.mp hx
    exact decide_eq_true (sorted_le_median vs hodd j (by omega) (by omega))
  rw [← (sortRat_perm vs).countP_eq]
  refine le_trans ?_ (List.take_sublist (vs.length / 2 + 1) (sortRat vs)).countP_le
  rw [List.countP_eq_length.mpr hall, List.length_take]
  exact Nat.le_min.mpr ⟨Nat.le_refl _, h⟩

theorem median_le_cut (nv : List Rat) (hodd : nv.length % 2 = 1) (hnn : ∀ v ∈ nv, 0 ≤ v) :
    median nv ≤ (median nv + medianAbsoluteDeviation nv) * splitThreshold := by
  have hm0 : 0 ≤ median nv := hnn _ (median_mem nv hodd)
  have hmad0 : 0 ≤ medianAbsoluteDeviation nv := by
    have hodd' : (nv.map fun v => Rat.abs (v - median nv)).length % 2 = 1 := by rw [List.length_map]; exact hodd
    obtain ⟨v, _, hv⟩ := List.mem_map.mp (median_mem _ hodd')
    exact (hv ▸ Rat.abs_nonneg : 0 ≤ median (nv.map fun v => Rat.abs (v - median nv)))
  have h1 : (1 : Rat) ≤ splitThreshold := by decide +kernel
  exact (le_mul_of_one_le_right hm0 h1).trans
    (mul_le_mul_of_nonneg_right (le_add_of_nonneg_right hmad0) (le_trans zero_le_one h1))

/-- more than `s.length` elements of `values ++ s` are at most its median, so one of them lies in `values` -/
theorem exists_le_cut_append (values s : List Rat) (hodd : (values ++ s).length % 2 = 1)
    (hnn : ∀ v ∈ values ++ s, 0 ≤ v) (hsl : s.length ≤ (values ++ s).length / 2) :
    ∃ v ∈ values, ¬ v > (median (values ++ s) + medianAbsoluteDeviation (values ++ s)) * splitThreshold := by
  have hc := half_le_median _ hodd
  rw [List.countP_append] at hc
  have hsc := List.countP_le_length (p := fun x => decide (x ≤ median (values ++ s))) (l := s)
  obtain ⟨v, hv, hle⟩ := List.countP_pos_iff.mp (show 0 < values.countP (· ≤ median (values ++ s)) by omega)
  exact ⟨v, hv, Rat.not_lt.mpr (Rat.le_trans (of_decide_eq_true hle) (median_le_cut _ hodd hnn))⟩

/-- the median is taken of `values` with the zero sentinel appended for an even count -/
theorem exists_le_cut (values : List Rat) (hne : values ≠ []) (hnn : ∀ v ∈ values, 0 ≤ v) :
    ∃ v ∈ values, ¬ v > splitCut splitThreshold 0 values := by
  have hpos : 0 < values.length := List.length_pos_iff.mpr hne
  unfold splitCut
  split
  · rename_i hev
    refine exists_le_cut_append values [0] ?_ (fun v hv => ?_) ?_
    · rw [List.length_append, List.length_singleton]; omega
    · exact (List.mem_append.mp hv).elim (hnn v) fun h => List.mem_singleton.mp h ▸ Rat.le_refl
    · rw [List.length_append, List.length_singleton]; omega
  · rename_i hev
    have := exists_le_cut_append values [] (by rw [List.append_nil]; omega)
      (by rw [List.append_nil]; exact hnn) (Nat.zero_le _)
    rwa [List.append_nil] at this

theorem markServers_flag (ratings : List Rat) (i : Nat) (h : i < ratings.length) :
    (markServers ratings).1[i]? = some (!decide (ratings[i] > splitCut splitThreshold 0 ratings)) := by
  unfold markServers splitFloat64
  simp only [List.getElem?_map, List.getElem?_eq_getElem h, Option.map_some, Option.some.injEq]
  rw [Bool.eq_iff_iff]
  simp only [List.contains_iff_mem, List.mem_filter, Bool.not_eq_true', decide_eq_false_iff_not]
  constructor
  · intro hx; exact hx.2
  · intro hx; exact ⟨List.getElem_mem h, hx⟩

/-- **with non-negative ratings, a server rated an outlier implies a mixed marking** -/
theorem markServers_mixed (ratings : List Rat) (hnn : ∀ v ∈ ratings, 0 ≤ v) (i : Nat)
    (hbad : (markServers ratings).1[i]? = some false) : (markServers ratings).2 = true := by
  have hi : i < ratings.length :=
    List.length_map (as := ratings) _ ▸ (List.getElem?_eq_some_iff.mp hbad).1
  rw [markServers_flag ratings i hi] at hbad
  have hb : ratings[i] > splitCut splitThreshold 0 ratings := by simpa using hbad
  obtain ⟨v, hv, hg⟩ := exists_le_cut ratings (List.ne_nil_of_length_pos (Nat.zero_lt_of_lt hi)) hnn
  -- `v` is rated good, `ratings[i]` an outlier
  unfold markServers splitFloat64
  simp only [Bool.and_eq_true, Bool.not_eq_true', List.isEmpty_eq_false_iff_exists_mem]
  exact ⟨⟨v, List.mem_filter.mpr ⟨hv, by simpa using hg⟩⟩,
    ⟨ratings[i], List.mem_filter.mpr ⟨List.getElem_mem hi, by simpa using hb⟩⟩⟩

end RB
