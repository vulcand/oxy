import OxyModel.Proofs.Rebal.Serve

/-! Adjustments: when they cannot happen, what they do to shares, convergence steps. -/
namespace RB
open PoolM RR

/-- `UpsertServer` / `RemoveServer` -/
def Op.isAdmin : Op → Prop
  | .upsert _ _ => True
  | .upsertFailing _ _ => True
  | .remove _ => True
  | _ => False

theorem Reb.adjust_not_expired {r : Reb} {now : Nat} (h : ¬ r.timer < (now : Int)) : r.adjust now = r := by
  rw [Reb.adjust_eq, if_neg fun hd => h hd.1.2.2]

theorem Sys.step_frozen {s : Sys} (h : s.Inv) (op : Op) (hna : ¬ op.isAdmin) (ht : ¬ s.reb.timer < (s.now : Int)) :
    (s.step op).1.bal.ws = s.bal.ws ∧ (s.step op).1.reb.timer = s.reb.timer := by
  cases op with
  | upsert u w => exact absurd trivial hna
  | upsertFailing u w => exact absurd trivial hna
  | remove u => exact absurd trivial hna
  | next =>
    obtain ⟨_, hws, _, _⟩ := Sys.step_next_out h
    exact ⟨hws, rfl⟩
  | serve cookie mt =>
    obtain ⟨b', hf, hstep⟩ := Sys.step_serve h cookie mt
    rcases hstep with ⟨e, he, _⟩ | ⟨x, _, he⟩
    · rw [he]; exact ⟨hf.ws, rfl⟩
    · rw [he]
      by_cases hv : s.viaRb = true
      · rw [if_pos hv]
        show ((s.withBal b').reb.adjust s.now).bal.ws = _ ∧ ((s.withBal b').reb.adjust s.now).timer = _
        rw [Reb.adjust_not_expired (r := (s.withBal b').reb) ht]
        exact ⟨hf.ws, rfl⟩
      · rw [if_neg hv]; exact ⟨hf.ws, rfl⟩
  | rate k v =>
    rw [Sys.step_rate, Reb.setRating_eq]
    cases s.reb.find k <;> exact ⟨rfl, rfl⟩
  | ready k v =>
    rw [Sys.step_ready, Reb.setReady_eq]
    cases s.reb.find k <;> exact ⟨rfl, rfl⟩
  | adv ns => exact ⟨rfl, rfl⟩

/-- **no second change before the timer**: along any continuation without administration calls the
    effective weights and the timer stay as they are for as long as the clock has not passed the timer -/
theorem Sys.frozen_until_timer (tail : List Op) : ∀ {s : Sys}, s.Inv → (∀ op ∈ tail, ¬ op.isAdmin) →
    ((s.applyOps tail).now : Int) ≤ s.reb.timer →
    (s.applyOps tail).bal.ws = s.bal.ws ∧ (s.applyOps tail).reb.timer = s.reb.timer := by
  induction tail with
  | nil => intro s _ _ _; exact ⟨rfl, rfl⟩
  | cons op tail ih =>
    intro s h hna hnow
    obtain ⟨hinv, _, hsame⟩ := Sys.step_spec h op
    obtain ⟨_, _, hsame'⟩ := Sys.applyOps_spec tail hinv
    -- the clock only moves forward, so it has not passed the timer yet
    have hle : (s.now : Int) ≤ s.reb.timer := by
      have h1 : s.now ≤ ((s.step op).1.applyOps tail).now := (hsame.trans hsame').now
      have h2 : (((s.step op).1.applyOps tail).now : Int) ≤ s.reb.timer := hnow
      omega
    obtain ⟨hws, htimer⟩ := Sys.step_frozen h op (hna op List.mem_cons_self) (Int.not_lt.mpr hle)
    obtain ⟨hws', htimer'⟩ := ih hinv (fun o ho => hna o (List.mem_cons_of_mem _ ho))
      (by rw [htimer]; exact hnow)
    exact ⟨hws'.trans hws, htimer'.trans htimer⟩

theorem sumCur_eq (ps : List Rec) : sumCur ps = (ps.map (·.cur)).sum := rfl

/-- **an adjustment made while some servers are rated as outliers never increases the share of a
    server that is not rated good, and lowers it when the adjustment is due and a good server can
    still grow** -/
theorem Reb.adjust_share (r : Reb) (now : Nat) (hm : r.marks.2 = true) {i : Nat} {p p' : Rec}
    (hp : r.servers[i]? = some p) (hp' : (r.adjust now).servers[i]? = some p')
    (hbad : r.marks.1[i]? = some false) :
    p'.cur * sumCur r.servers ≤ p.cur * sumCur (r.adjust now).servers ∧
    (r.due now → 0 < p.cur →
      (∃ (j : Nat) (q : Rec), r.servers[j]? = some q ∧ r.marks.1[j]? = some true ∧ 0 < q.cur ∧ 4 * q.cur ≤ 4096) →
      p'.cur * sumCur r.servers < p.cur * sumCur (r.adjust now).servers) := by
  have hnw : r.newWeights = setMarked (r.servers.zip r.marks.1) := by
    unfold Reb.newWeights; simp only [hm, if_true]
  rw [Reb.adjust_servers] at hp' ⊢
  by_cases hd : r.due now
  · rw [if_pos hd, hnw] at hp' ⊢
    have := setMarked_share (r.servers.zip r.marks.1) (List.getElem?_zip_eq_some.mpr ⟨hp, hbad⟩) hp'
    rw [Reb.zip_marks_fst] at this
    refine ⟨this.1, ?_⟩
    rintro - hpos ⟨j, q, hq, hmj, hqpos, hqcap⟩
    refine this.2 hpos ⟨(q, true), List.mem_of_getElem? (List.getElem?_zip_eq_some.mpr ⟨hq, hmj⟩), ?_, hqpos⟩
    have hcap : q.cur * 4 ≤ 4096 := by rw [Nat.mul_comm]; exact hqcap
    exact decide_eq_true hcap
  · rw [if_neg hd] at hp' ⊢
    rw [hp] at hp'; cases hp'
    exact ⟨Nat.le_refl _, fun h => absurd h hd⟩

/-- `hm`: no server is rated differently from the others, so `convergeWeights` runs -/
theorem Reb.adjust_converge {r : Reb} {now : Nat} (hd : r.due now) (hm : r.marks.2 = false) :
    (r.adjust now).servers = (converge r.servers).1 := by
  rw [Reb.adjust_servers, if_pos hd]
  unfold Reb.newWeights; simp only [hm]; rfl

/-- one converging adjustment, possibly after meter readings changed -/
def ConvAdj (a b : Reb) : Prop :=
  ∃ (a' : Reb) (now : Nat), SameWeights a.servers a'.servers ∧ 2 ≤ a'.servers.length ∧ a'.metricsReady = true ∧
    a'.timer < (now : Int) ∧ a'.marks.2 = false ∧ b = a'.adjust now

theorem ConvAdj.bounded {a b : Reb} (h : ConvAdj a b) {T : Nat} (hb : ∀ p ∈ a.servers, Bounded (4 * T) p) :
    ∀ q ∈ b.servers, Bounded T q := by
  obtain ⟨a', now, hs, hlen, hready, hexp, hm, rfl⟩ := h
  rw [Reb.adjust_converge ⟨hlen, hready, hexp⟩ hm]
  exact converge_bounded T _ (hs.bounded hb)

theorem ConvAdj.final {a b : Reb} (h : ConvAdj a b) (hb : ∀ p ∈ a.servers, Bounded 4 p) :
    Proportional b.servers := by
  obtain ⟨a', now, hs, hlen, hready, hexp, hm, rfl⟩ := h
  rw [Reb.adjust_converge ⟨hlen, hready, hexp⟩ hm]
  exact converge_final _ (hs.bounded hb)

end RB
