import OxyModel.Proofs.Pool.Route
import OxyModel.Proofs.Rebal.Inv

/-! The system (`RB.Sys`: bare balancer or rebalancer over balancer): after every operation the
invariant holds and the set the state defines (`Sys.spec`, an abstraction function) is the one the
administration history defines (`specStep`): a refinement.  An operation replaces the rebalancer, or
the balancer, by one of known shape; `withReb_spec`, `withBal_bare` and `withBal_spec` say what that
preserves, and the per-operation lemmas only supply the shape. -/
namespace RB
open PoolM RR

/-- the specification after one operation -/
def specStep (viaRb : Bool) (sp : Spec) : Op → Spec
  | .upsert _ (some (.negSucc _)) => sp
  | .upsert u (some (.ofNat w)) => sp.upsert u.key (some w)
  | .upsert u none => sp.upsert u.key none
  -- an add whose meter factory fails defines nothing (a meter is only created by the rebalancer, for a
  -- server it has no record of); otherwise it is an ordinary add / update
  | .upsertFailing u w => if viaRb && (sp u.key).isNone then sp else sp.upsert u.key w
  | .remove u => sp.remove u.key
  | _ => sp

/-- the set (with configured weights) defined by the add / update / remove calls of a history, for a
    pool managed through the rebalancer (`viaRb`) or directly -/
def specOf (viaRb : Bool) (ops : List Op) : Spec := ops.foldl (specStep viaRb) Spec.empty

theorem specOf_append_one (viaRb : Bool) (hist : List Op) (op : Op) :
    specOf viaRb (hist ++ [op]) = specStep viaRb (specOf viaRb hist) op := by
  unfold specOf; rw [List.foldl_append]; rfl

/-- every reachable system; `bare`: administration that bypasses the rebalancer creates no shadow records;
    `timer`: it is only ever armed at `now + backoff` or set into the past, and the clock moves forward -/
structure Sys.Inv (s : Sys) : Prop where
  bal : s.bal.WF
  reb : s.viaRb = true → s.reb.Inv
  bare : s.viaRb = false → s.reb.servers = []
  timer : s.reb.timer ≤ (s.now : Int) + s.reb.backoff

/-- the set the state defines: the configured weight of every member.  Behind a rebalancer the balancer
    holds the *effective* weights and the shadow records remember the configured ones (`origWeight`) -/
def Sys.spec (s : Sys) : Spec := if s.viaRb then s.reb.configured else s.bal.weight

theorem Sys.spec_reb {s : Sys} (hv : s.viaRb = true) : s.spec = s.reb.configured := if_pos hv

theorem Sys.spec_bare {s : Sys} (hv : s.viaRb = false) : s.spec = s.bal.weight := by
  unfold Sys.spec; rw [hv]; rfl

theorem Sys.Inv.mem_keys {s : Sys} (h : s.Inv) (k : Key) : k ∈ s.bal.view.keys ↔ (s.spec k).isSome := by
  cases hv : s.viaRb
  · rw [Sys.spec_bare hv]; exact Pool.weight_isSome.symm
  · rw [Sys.spec_reb hv, Sys.bal, ← (h.reb hv).keys]; exact (Pool.weight_isSome (p := s.reb.shadow)).symm

theorem Sys.init_inv (v st : Bool) (bo : Nat) (nr : Bool) : (Sys.init v st bo nr).Inv := by
  refine ⟨Bal.empty_wf, fun _ => Reb.init_inv bo nr, fun _ => rfl, ?_⟩
  show zeroTime ≤ ((0 : Nat) : Int) + ((Reb.init bo nr).backoff : Int)
  unfold zeroTime; omega

theorem Sys.init_spec (v st : Bool) (bo : Nat) (nr : Bool) : (Sys.init v st bo nr).spec = Spec.empty := by
  cases v <;> rfl

/-- properties every operation preserves -/
structure Sys.Same (s s' : Sys) : Prop where
  viaRb : s'.viaRb = s.viaRb
  sticky : s'.sticky = s.sticky
  backoff : s'.reb.backoff = s.reb.backoff
  now : s.now ≤ s'.now

theorem Sys.Same.refl (s : Sys) : s.Same s := ⟨rfl, rfl, rfl, le_rfl⟩

theorem Sys.Same.trans {s s' s'' : Sys} (h : s.Same s') (h' : s'.Same s'') : s.Same s'' :=
  ⟨h'.viaRb.trans h.viaRb, h'.sticky.trans h.sticky, h'.backoff.trans h.backoff, le_trans h.now h'.now⟩

theorem Sys.viaRb_false {s : Sys} (hv : ¬ s.viaRb = true) : s.viaRb = false := by simpa using hv

theorem Sys.withReb_spec {s : Sys} {r' : Reb} (hv : s.viaRb = true) (hi : r'.Inv)
    (ht : r'.timer ≤ (s.now : Int) + r'.backoff) (hbo : r'.backoff = s.reb.backoff) :
    ({ s with reb := r' } : Sys).Inv ∧ ({ s with reb := r' } : Sys).spec = r'.configured ∧
    s.Same { s with reb := r' } :=
  ⟨⟨hi.bal, fun _ => hi, fun hb => absurd hv (by rw [show s.viaRb = false from hb]; simp), ht⟩,
    Sys.spec_reb (s := { s with reb := r' }) hv, ⟨rfl, rfl, hbo, le_rfl⟩⟩

theorem Sys.withBal_bare {s : Sys} (h : s.Inv) {b' : Bal} (hv : s.viaRb = false) (hb : b'.WF) :
    (s.withBal b').Inv ∧ (s.withBal b').spec = b'.weight ∧ s.Same (s.withBal b') :=
  ⟨⟨hb, fun hb' => absurd (show s.viaRb = true from hb') (by rw [hv]; simp), h.bare, h.timer⟩,
    Sys.spec_bare (s := s.withBal b') hv, ⟨rfl, rfl, rfl, le_rfl⟩⟩

theorem Sys.withBal_spec {s : Sys} (h : s.Inv) {b' : Bal} (hf : s.bal.Frame b') :
    (s.withBal b').Inv ∧ (s.withBal b').spec = s.spec ∧ s.Same (s.withBal b') := by
  cases hv : s.viaRb with
  | true =>
    rw [Sys.spec_reb hv]
    exact Sys.withReb_spec hv ((h.reb hv).withBal hf) h.timer rfl
  | false =>
    obtain ⟨hinv, hspec, hsame⟩ := Sys.withBal_bare h hv hf.wf
    refine ⟨hinv, hspec.trans ?_, hsame⟩
    rw [Sys.spec_bare hv]
    exact funext (Pool.weight_congr (by show b'.view.keys = s.bal.view.keys; rw [Bal.view_keys, Bal.view_keys, hf.urls]) hf.ws)

/-- the weight of every key after an add / update, in the words of the specification -/
theorem weight_upsert_spec {p : Pool Key} (hp : p.WF) (k : Key) (w : Option Nat) :
    (p.upsert k w).weight = Spec.upsert p.weight k w := by
  funext k'
  rw [Pool.weight_upsert hp]
  unfold Spec.upsert
  by_cases hk : k' = k
  · rw [if_pos hk, if_pos hk]
    cases p.weight k <;> cases w <;> rfl
  · rw [if_neg hk, if_neg hk]

theorem weight_remove_spec {p p' : Pool Key} (hp : p.WF) {k : Key} (h : p.remove k = some p') :
    p'.weight = Spec.remove p.weight k :=
  funext (Pool.weight_remove hp h)

theorem _root_.PoolM.Spec.upsert_of_ne {sp : Spec} {k k' : Key} (h : k' ≠ k) (w : Option Nat) : sp.upsert k w k' = sp k' := by
  unfold Spec.upsert; exact if_neg h

theorem _root_.PoolM.Spec.remove_of_ne {sp : Spec} {k k' : Key} (h : k' ≠ k) : sp.remove k k' = sp k' := by
  unfold Spec.remove; exact if_neg h

theorem _root_.PoolM.Spec.remove_self (sp : Spec) (k : Key) : sp.remove k k = none := by
  unfold Spec.remove; exact if_pos rfl

theorem spec_remove_none {sp : Spec} {k : Key} (h : sp k = none) : sp.remove k = sp := by
  funext k'; unfold Spec.remove; split
  · rename_i e; rw [e, h]
  · rfl

/-- `UpsertServer(u, Weight(w))` through the front end in use, as `Sys.step` performs it -/
def Sys.upserted (s : Sys) (u : URL) (w : Option Nat) : Sys :=
  if s.viaRb then { s with reb := s.reb.upsert s.now u w } else s.withBal (s.bal.upsert u w)

theorem Sys.upserted_reb {s : Sys} (hv : s.viaRb = true) (u : URL) (w : Option Nat) :
    s.upserted u w = { s with reb := s.reb.upsert s.now u w } := if_pos hv

theorem Sys.upserted_bare {s : Sys} (hv : s.viaRb = false) (u : URL) (w : Option Nat) :
    s.upserted u w = s.withBal (s.bal.upsert u w) := by
  unfold Sys.upserted; rw [hv]; rfl

theorem Sys.step_upsert (s : Sys) (u : URL) (w : Option Nat) :
    s.step (.upsert u (w.map Int.ofNat)) = (s.upserted u w, .ok) := by
  cases w <;> rfl

theorem Sys.step_upsertFailing (s : Sys) (u : URL) (w : Option Nat) :
    s.step (.upsertFailing u w) =
      if s.viaRb && (s.reb.find u.key).isNone then ({ s with reb := s.reb.upsertMeterFails u w }, .errMeter)
      else (s.upserted u w, .ok) := rfl

theorem Sys.upsert_spec {s : Sys} (h : s.Inv) (u : URL) (w : Option Nat) :
    (s.upserted u w).Inv ∧ (s.upserted u w).spec = s.spec.upsert u.key w ∧ s.Same (s.upserted u w) := by
  cases hv : s.viaRb with
  | true =>
    rw [Sys.upserted_reb hv, Sys.spec_reb hv]
    obtain ⟨hrestored, hshadow⟩ := Reb.upsert_spec (h.reb hv) s.now u w
    obtain ⟨hinv, hspec, hsame⟩ := Sys.withReb_spec hv hrestored.inv hrestored.timer_le hrestored.backoff
    exact ⟨hinv, hspec.trans ((congrArg Pool.weight hshadow).trans (weight_upsert_spec (h.reb hv).shadow_wf _ w)), hsame⟩
  | false =>
    rw [Sys.upserted_bare hv, Sys.spec_bare hv]
    obtain ⟨hinv, hspec, hsame⟩ := Sys.withBal_bare h hv (Bal.upsert_wf h.bal u w)
    exact ⟨hinv, hspec.trans ((congrArg Pool.weight (Bal.upsert_view h.bal u w)).trans (weight_upsert_spec h.bal.view _ w)), hsame⟩

theorem Sys.step_remove_reb {s : Sys} (hv : s.viaRb = true) (u : URL) :
    s.step (.remove u) = match s.reb.remove s.now u with
      | some r => ({ s with reb := r }, .ok)
      | none => (s, .errNotFound) := by
  unfold Sys.step; exact if_pos hv

theorem Sys.step_remove_bare {s : Sys} (hv : s.viaRb = false) (u : URL) :
    s.step (.remove u) = match s.bal.remove u with
      | some b => (s.withBal b, .ok)
      | none => (s, .errNotFound) := by
  unfold Sys.step; exact if_neg (by rw [hv]; exact Bool.false_ne_true)

theorem Sys.step_rate (s : Sys) (k : Key) (v : Rat) :
    s.step (.rate k v) = match s.reb.setRating k v with
      | some r => ({ s with reb := r }, .ok)
      | none => (s, .errNotFound) := rfl

theorem Sys.step_ready (s : Sys) (k : Key) (v : Bool) :
    s.step (.ready k v) = match s.reb.setReady k v with
      | some r => ({ s with reb := r }, .ok)
      | none => (s, .errNotFound) := rfl

theorem Reb.setRating_eq (r : Reb) (k : Key) (v : Rat) :
    r.setRating k v = (r.find k).map fun i => { r with servers := r.servers.modify i fun x => { x with rating := v } } := by
  unfold Reb.setRating; cases r.find k <;> rfl

theorem Reb.setReady_eq (r : Reb) (k : Key) (v : Bool) :
    r.setReady k v = (r.find k).map fun i => { r with servers := r.servers.modify i fun x => { x with ready := v } } := by
  unfold Reb.setReady; cases r.find k <;> rfl

theorem Sys.step_remove_unknown {s : Sys} (h : s.Inv) {u : URL} (hm : u.key ∉ s.bal.view.keys) :
    s.step (.remove u) = (s, .errNotFound) := by
  by_cases hv : s.viaRb = true
  · rw [Sys.step_remove_reb hv, (Reb.remove_none (h.reb hv) s.now u).mpr hm]
  · rw [Sys.step_remove_bare (Sys.viaRb_false hv), Bal.remove_none.mpr hm]

/-- `RemoveServer` of a server in the pool succeeds, through either front end -/
theorem Sys.step_remove_known {s : Sys} (h : s.Inv) {u : URL} (hm : u.key ∈ s.bal.view.keys) :
    (s.step (.remove u)).2 = .ok := by
  cases hv : s.viaRb with
  | true =>
    rw [Sys.step_remove_reb hv]
    cases hrm : s.reb.remove s.now u with
    | none => exact absurd hm ((Reb.remove_none (h.reb hv) s.now u).mp hrm)
    | some r' => rfl
  | false =>
    rw [Sys.step_remove_bare hv]
    cases hrm : s.bal.remove u with
    | none => exact absurd hm (Bal.remove_none.mp hrm)
    | some b' => rfl

theorem Sys.remove_spec {s : Sys} (h : s.Inv) (u : URL) :
    (s.step (.remove u)).1.Inv ∧ (s.step (.remove u)).1.spec = s.spec.remove u.key ∧
    s.Same (s.step (.remove u)).1 := by
  by_cases hm : u.key ∈ s.bal.view.keys
  case neg =>
    rw [Sys.step_remove_unknown h hm, spec_remove_none (by rwa [h.mem_keys, Option.not_isSome_iff_eq_none] at hm)]
    exact ⟨h, rfl, Sys.Same.refl s⟩
  cases hv : s.viaRb with
  | true =>
    rw [Sys.step_remove_reb hv, Sys.spec_reb hv]
    cases hrm : s.reb.remove s.now u with
    | none => exact absurd hm ((Reb.remove_none (h.reb hv) s.now u).mp hrm)
    | some r' =>
      obtain ⟨hrestored, hshadow⟩ := Reb.remove_spec (h.reb hv) hrm
      obtain ⟨hinv, hspec, hsame⟩ := Sys.withReb_spec hv hrestored.inv hrestored.timer_le hrestored.backoff
      exact ⟨hinv, hspec.trans (weight_remove_spec (h.reb hv).shadow_wf hshadow), hsame⟩
  | false =>
    rw [Sys.step_remove_bare hv, Sys.spec_bare hv]
    cases hrm : s.bal.remove u with
    | none => exact absurd hm (Bal.remove_none.mp hrm)
    | some b' =>
      obtain ⟨hinv, hspec, hsame⟩ := Sys.withBal_bare h hv (Bal.remove_wf h.bal hrm)
      exact ⟨hinv, hspec.trans (weight_remove_spec h.bal.view (Bal.remove_view hrm)), hsame⟩

theorem Sys.meter_spec {s : Sys} (h : s.Inv) (i : Nat) (f : Rec → Rec)
    (hf : ∀ x, (f x).url = x.url ∧ (f x).orig = x.orig ∧ (f x).cur = x.cur) (s' : Sys)
    -- `s'` with an equation: the callers pass the state `Sys.step` computes and close it by `rfl`
    (hs' : s' = { s with reb := { s.reb with servers := s.reb.servers.modify i f } }) :
    s'.Inv ∧ s'.spec = s.spec ∧ s.Same s' := by
  subst hs'
  by_cases hv : s.viaRb = true
  · obtain ⟨hinv, hshadow⟩ := Reb.modify_meter_spec (h.reb hv) i f hf
    rw [Sys.spec_reb hv]
    obtain ⟨hinv', hspec, hsame⟩ := Sys.withReb_spec hv hinv h.timer rfl
    exact ⟨hinv', hspec.trans (congrArg Pool.weight hshadow), hsame⟩
  · -- a bare balancer has no records to modify
    have he : s.reb.servers.modify i f = s.reb.servers := by rw [h.bare (Sys.viaRb_false hv)]; simp
    rw [he]
    exact ⟨h, rfl, Sys.Same.refl s⟩

/-- the output of a `NextServer()` call with result `r` on stored URLs `urls` -/
def nextOut (urls : List URL) (r : Res) : Out :=
  .next r (match r with | .sel i => some (urls.getD i default) | _ => none)

theorem nextOut_err {urls : List URL} {r : Res} (h : ∀ i, r ≠ .sel i) : nextOut urls r = .next r none := by
  rcases Res.not_sel h with rfl | rfl | rfl <;> rfl

/-- **the shape of `NextServer()`**: stored URLs and weights stay, the iterator is the one the selection leaves -/
theorem Sys.step_next {s : Sys} (h : s.Inv) :
    ∃ b' : Bal, s.bal.Frame b' ∧ b'.it = (next s.bal.ws s.bal.it).2 ∧
      s.step .next = (s.withBal b', nextOut s.servers (next s.bal.ws s.bal.it).1) := by
  have e : s.step .next = (s.withBal s.bal.nextServer.2.2,
      .next s.bal.nextServer.1 (s.bal.nextServer.2.1.map s.bal.nextServer.2.2.deref)) := rfl
  rw [e]
  by_cases hn : ∃ i, (next s.bal.ws s.bal.it).1 = .sel i
  · obtain ⟨i, hn⟩ := hn
    obtain ⟨hf, hderef⟩ := Bal.alloc_spec h.bal (s.bal.urls.getD i default) (RR.after_reset_next h.bal.orbit)
    rw [Bal.nextServer_sel h.bal hn, hn]
    exact ⟨_, hf, rfl, by simp only [Option.map_some, hderef]; rfl⟩
  · have hn' : ∀ i, (next s.bal.ws s.bal.it).1 ≠ .sel i := fun i hi => hn ⟨i, hi⟩
    rw [Bal.nextServer_err hn']
    refine ⟨_, Bal.setIt_frame h.bal (RR.after_reset_next h.bal.orbit), rfl, ?_⟩
    rw [nextOut_err hn']; rfl

/-- **the shape of a request**: a balancer `b'` with stored URLs and weights unchanged; then the error
    response and nothing else, or a forward on an object of its own holding a stored URL and — behind a
    rebalancer — `adjustWeights()` -/
theorem Sys.step_serve {s : Sys} (h : s.Inv) (cookie : Option Key) (mt : Option Mut) :
    ∃ b' : Bal, s.bal.Frame b' ∧
      ((∃ e, s.step (.serve cookie mt) = (s.withBal b', .failed e) ∧ (next s.bal.ws s.bal.it).1 = e ∧
          ∀ i, e ≠ .sel i) ∨
       (∃ x ∈ s.servers, s.step (.serve cookie mt) =
          (if s.viaRb then { s.withBal b' with reb := (s.withBal b').reb.adjust s.now } else s.withBal b',
            .forwarded x true))) := by
  unfold Sys.step
  simp only
  rcases Bal.route_cases h.bal s.sticky cookie with ⟨x, hx, it, st, ho, e⟩ | ⟨_, hn, e⟩
  · rw [e]
    simp only
    obtain ⟨hf, hderef⟩ := Bal.alloc_spec h.bal x ho
    -- the handler writes to the fresh object, which is not one of the pool's references
    have hfresh : s.bal.heap.length ∉ (s.bal.alloc x it).refs := Bal.fresh_not_ref h.bal
    refine ⟨_, hf.trans (Bal.mutate_frame hf.wf hfresh mt), Or.inr ⟨x, hx, ?_⟩⟩
    rw [hderef]
    simp only [List.contains_eq_mem, hfresh, decide_false, Bool.not_false]
  · rw [e]
    exact ⟨_, Bal.setIt_frame h.bal (RR.after_reset_next h.bal.orbit), Or.inl ⟨_, rfl, rfl, hn⟩⟩

theorem Sys.step_serve_err {s : Sys} {cookie : Option Key} {e : Res} {b' : Bal}
    (hrt : s.bal.route s.sticky cookie = (.err e, b')) (mt : Option Mut) :
    s.step (.serve cookie mt) = (s.withBal b', .failed e) := by
  unfold Sys.step
  simp only
  rw [hrt]

theorem Sys.step_meter_fails {s : Sys} (h : s.Inv) (hv : s.viaRb = true) {u : URL} (hf : s.reb.find u.key = none)
    (w : Option Nat) :
    ∃ b' : Bal, s.bal.Frame b' ∧ s.step (.upsertFailing u w) = (s.withBal b', .errMeter) := by
  have hk : u.key ∉ s.bal.view.keys := Pool.find_none.mp (((h.reb hv).find_bal _).trans hf)
  refine ⟨_, (Bal.alloc_spec h.bal u (it := It.reset) ⟨0, rfl⟩).1, ?_⟩
  rw [Sys.step_upsertFailing, if_pos (by rw [hv, hf]; rfl)]
  unfold Reb.upsertMeterFails
  simp only
  rw [show (s.reb.bal.upsert u w).remove u = _ from Bal.upsert_remove_new h.bal u w hk]
  rfl

theorem Sys.upsertFailing_spec {s : Sys} (h : s.Inv) (u : URL) (w : Option Nat) :
    (s.step (.upsertFailing u w)).1.Inv ∧
    (s.step (.upsertFailing u w)).1.spec = specStep s.viaRb s.spec (.upsertFailing u w) ∧
    s.Same (s.step (.upsertFailing u w)).1 := by
  -- the rebalancer has a record of exactly the servers the specification defines
  have hiff : (s.viaRb && (s.reb.find u.key).isNone) = (s.viaRb && (s.spec u.key).isNone) := by
    cases hv : s.viaRb
    · rfl
    · rw [Sys.spec_reb hv, Reb.find_eq]
      unfold Reb.configured Pool.weight
      cases s.reb.shadow.find u.key <;> rfl
  simp only [specStep]
  rw [← hiff]
  by_cases hc : (s.viaRb && (s.reb.find u.key).isNone) = true
  · obtain ⟨hv, hf⟩ := Bool.and_eq_true_iff.mp hc
    obtain ⟨b', hfr, e⟩ := Sys.step_meter_fails h hv (Option.isNone_iff_eq_none.mp hf) w
    rw [e, if_pos hc]
    exact Sys.withBal_spec h hfr
  · rw [Sys.step_upsertFailing, if_neg hc, if_neg hc]
    exact Sys.upsert_spec h u w

theorem Sys.serve_spec {s : Sys} (h : s.Inv) (cookie : Option Key) (mt : Option Mut) :
    (s.step (.serve cookie mt)).1.Inv ∧ (s.step (.serve cookie mt)).1.spec = s.spec ∧
    s.Same (s.step (.serve cookie mt)).1 ∧ (s.step (.serve cookie mt)).1.servers = s.servers := by
  obtain ⟨b', hf, hstep⟩ := Sys.step_serve h cookie mt
  obtain ⟨hinv, href, hsame⟩ := Sys.withBal_spec h hf
  rcases hstep with ⟨e, he, _⟩ | ⟨x, _, he⟩
  · rw [he]; exact ⟨hinv, href, hsame, hf.urls⟩
  · rw [he]
    by_cases hv : s.viaRb = true
    · rw [if_pos hv]
      have hadj := Reb.adjust_spec (hinv.reb hv) s.now
      have ht : ((s.withBal b').reb.adjust s.now).timer ≤ (s.now : Int) + ((s.withBal b').reb.adjust s.now).backoff := by
        rcases hadj.timer with e | e
        · rw [e, hadj.backoff]; exact hinv.timer
        · rw [e, hadj.backoff]
      obtain ⟨hinv', href', hsame'⟩ := Sys.withReb_spec (s := s.withBal b') hv hadj.inv ht hadj.backoff
      refine ⟨hinv', ?_, hsame.trans hsame', hadj.urls.trans hf.urls⟩
      rw [href', ← href, Sys.spec_reb (s := s.withBal b') hv]
      exact congrArg Pool.weight (shadow_of_rest hadj.rest)
    · rw [if_neg hv]
      exact ⟨hinv, href, hsame, hf.urls⟩

/-- **every operation preserves the invariant and refines the specification step** -/
theorem Sys.step_spec {s : Sys} (h : s.Inv) (op : Op) :
    (s.step op).1.Inv ∧ (s.step op).1.spec = specStep s.viaRb s.spec op ∧ s.Same (s.step op).1 := by
  cases op with
  | upsert u w =>
    cases w with
    | none => exact Sys.upsert_spec h u none
    | some w =>
      cases w with
      | ofNat w => exact Sys.upsert_spec h u (some w)
      | negSucc w => exact ⟨h, rfl, Sys.Same.refl s⟩
  | upsertFailing u w => exact Sys.upsertFailing_spec h u w
  | remove u => exact Sys.remove_spec h u
  | next =>
    obtain ⟨b', hf, _, e⟩ := Sys.step_next h
    rw [e]
    exact Sys.withBal_spec h hf
  | serve cookie mt =>
    obtain ⟨hinv, href, hsame, _⟩ := Sys.serve_spec h cookie mt
    exact ⟨hinv, href, hsame⟩
  | rate k v =>
    rw [Sys.step_rate, Reb.setRating_eq]
    cases s.reb.find k with
    | none => exact ⟨h, rfl, Sys.Same.refl s⟩
    | some i => exact Sys.meter_spec h i (fun x => { x with rating := v }) (fun _ => ⟨rfl, rfl, rfl⟩) _ rfl
  | ready k v =>
    rw [Sys.step_ready, Reb.setReady_eq]
    cases s.reb.find k with
    | none => exact ⟨h, rfl, Sys.Same.refl s⟩
    | some i => exact Sys.meter_spec h i (fun x => { x with ready := v }) (fun _ => ⟨rfl, rfl, rfl⟩) _ rfl
  | adv ns =>
    refine ⟨⟨h.bal, h.reb, h.bare, ?_⟩, rfl, ⟨rfl, rfl, rfl, Nat.le_add_right _ _⟩⟩
    have := h.timer
    show s.reb.timer ≤ ((s.now + ns : Nat) : Int) + s.reb.backoff
    omega

/-- **after every history**: the invariant holds and the state defines the set the administration calls define -/
theorem Sys.applyOps_spec (ops : List Op) : ∀ {s : Sys}, s.Inv →
    (s.applyOps ops).Inv ∧ (s.applyOps ops).spec = ops.foldl (specStep s.viaRb) s.spec ∧ s.Same (s.applyOps ops) := by
  induction ops with
  | nil => intro s h; exact ⟨h, rfl, Sys.Same.refl s⟩
  | cons op ops ih =>
    intro s h
    obtain ⟨hinv, hspec, hsame⟩ := Sys.step_spec h op
    obtain ⟨hinv', hspec', hsame'⟩ := ih hinv
    rw [hsame.viaRb, hspec] at hspec'
    exact ⟨hinv', hspec', hsame.trans hsame'⟩

theorem Sys.reach_spec (v st : Bool) (bo : Nat) (nr : Bool) (hist : List Op) :
    ((Sys.init v st bo nr).applyOps hist).Inv ∧ ((Sys.init v st bo nr).applyOps hist).spec = specOf v hist ∧
    ((Sys.init v st bo nr).applyOps hist).viaRb = v ∧ ((Sys.init v st bo nr).applyOps hist).sticky = st := by
  obtain ⟨hinv, hspec, hsame⟩ := Sys.applyOps_spec hist (Sys.init_inv v st bo nr)
  rw [Sys.init_spec] at hspec
  exact ⟨hinv, hspec, hsame.viaRb, hsame.sticky⟩

end RB
