import OxyModel.Model.Rebalancer
import OxyModel.Proofs.RR.Folds

/-! Weight arithmetic of the rebalancer.  `converge` and `setMarked` change every record by a rule of
its own (`convergeRec`, `markRec`) and then divide all weights exactly by one positive number
(`Scaled`: `converge_scaled`, `setMarked_scaled`).  Range, six-step convergence and shares follow from this
shape and per-record facts.  `converge_six` is the unbroken chain of `converge`; `C10.C10_converges_in_6`,
where readings may change in between (`ConvAdj`), chains the same `converge_bounded` / `converge_final`. -/
namespace RB

theorem gcdCur_dvd {ps : List Rec} {p : Rec} (h : p ∈ ps) : gcdCur ps ∣ p.cur :=
  (RR.foldl_gcd_dvd (·.cur) ps 0).2 p h

def Rec.divCur (D : Nat) (p : Rec) : Rec := { p with cur := p.cur / D }

theorem map_divCur_one (ps : List Rec) : ps.map (Rec.divCur 1) = ps :=
  (List.map_congr_left fun p _ => show p.divCur 1 = p by simp [Rec.divCur]).trans (List.map_id' ps)

/-- `rs` is `qs` with every weight divided exactly by one positive number: what `normalizeWeights` makes of `qs` -/
def Scaled (qs rs : List Rec) : Prop := ∃ D, 0 < D ∧ rs = qs.map (Rec.divCur D) ∧ ∀ p ∈ qs, D ∣ p.cur

theorem normalize_scaled (ps : List Rec) : Scaled ps (normalize ps) := by
  unfold normalize
  simp only
  split
  · exact ⟨1, Nat.one_pos, (map_divCur_one ps).symm, fun _ _ => Nat.one_dvd _⟩
  · exact ⟨gcdCur ps, by omega, rfl, fun _ => gcdCur_dvd⟩

theorem orig_eq_cur_of_not_any {ps : List Rec} (hc : ¬ ps.any (fun p => p.orig != p.cur) = true) {q : Rec}
    (hq : q ∈ ps) : q.orig = q.cur :=
  Decidable.byContradiction fun hne => hc (List.any_eq_true.mpr ⟨q, hq, bne_iff_ne.mpr hne⟩)

theorem converge_scaled (ps : List Rec) : Scaled (ps.map convergeRec) (converge ps).1 := by
  unfold converge
  split
  · exact normalize_scaled _
  · rename_i hc
    -- nothing to converge: every record is left as it is, `D = 1`
    refine ⟨1, Nat.one_pos, ?_, fun _ _ => Nat.one_dvd _⟩
    rw [map_divCur_one]
    exact ((List.map_congr_left fun p hp => if_pos (orig_eq_cur_of_not_any hc hp)).trans (List.map_id' ps)).symm

theorem setMarked_scaled (ps : List (Rec × Bool)) : Scaled (ps.map markRec) (setMarked ps).1 := by
  unfold setMarked
  split
  · exact normalize_scaled _
  · rename_i hc
    -- no good record can grow: `markRec` leaves every record as it is, `D = 1`
    refine ⟨1, Nat.one_pos, ?_, fun _ _ => Nat.one_dvd _⟩
    rw [map_divCur_one]
    exact List.map_congr_left fun q hq => (if_neg fun hg => hc (List.any_eq_true.mpr ⟨q, hq, hg⟩)).symm

theorem converge_unchanged {ps : List Rec} (h : (converge ps).2 = false) : (converge ps).1 = ps := by
  unfold converge at h ⊢
  split at h
  · cases h
  · rename_i hc; rw [if_neg hc]

theorem setMarked_unchanged {ps : List (Rec × Bool)} (h : (setMarked ps).2 = false) :
    (setMarked ps).1 = ps.map (·.1) := by
  unfold setMarked at h ⊢
  split at h
  · cases h
  · rename_i hc; rw [if_neg hc]

/-- `cur ≤ max orig T`, a zero configured weight stays zero -/
def Bounded (T : Nat) (p : Rec) : Prop := p.cur ≤ max p.orig T ∧ (p.orig = 0 → p.cur = 0)

/-- a positive configured weight never drops to zero -/
def Pos (p : Rec) : Prop := 0 < p.orig → 1 ≤ p.cur

theorem Bounded.mono {T T' : Nat} (h : T ≤ T') {p : Rec} (hb : Bounded T p) : Bounded T' p :=
  ⟨Nat.le_trans hb.1 (Nat.max_le.mpr ⟨Nat.le_max_left _ _, Nat.le_trans h (Nat.le_max_right _ _)⟩), hb.2⟩

theorem Bounded.divCur {T : Nat} {p : Rec} (h : Bounded T p) (D : Nat) : Bounded T (p.divCur D) :=
  ⟨Nat.le_trans (Nat.div_le_self _ _) h.1, fun h0 => show p.cur / D = 0 by rw [h.2 h0, Nat.zero_div]⟩

theorem Pos.divCur {p : Rec} (h : Pos p) {D : Nat} (hD : 0 < D) (hd : D ∣ p.cur) : Pos (p.divCur D) :=
  fun ho => Nat.div_pos (Nat.le_of_dvd (h ho) hd) hD

theorem Scaled.bounded {qs rs : List Rec} (h : Scaled qs rs) {T : Nat} (hq : ∀ q ∈ qs, Bounded T q) :
    ∀ r ∈ rs, Bounded T r := by
  obtain ⟨D, _, rfl, _⟩ := h
  exact List.forall_mem_map.mpr fun q hm => (hq q hm).divCur D

theorem Scaled.pos {qs rs : List Rec} (h : Scaled qs rs) (hq : ∀ q ∈ qs, Pos q) : ∀ r ∈ rs, Pos r := by
  obtain ⟨D, hD, rfl, hdvd⟩ := h
  exact List.forall_mem_map.mpr fun q hm => (hq q hm).divCur hD (hdvd q hm)

theorem decrease_le (o c T : Nat) (h : c ≤ max o (4 * T)) : decrease o c ≤ max o T := by
  unfold decrease fsmGrowFactor
  simp only
  split
  · exact Nat.le_max_left _ _
  · rw [Nat.max_def] at h
    split at h
    · exact Nat.le_trans (Nat.div_le_of_le_mul h) (Nat.le_max_right _ _)
    · exact Nat.le_trans (Nat.le_trans (Nat.div_le_self _ _) h) (Nat.le_max_left _ _)

theorem convergeRec_bounded {T : Nat} {p : Rec} (h : Bounded (4 * T) p) : Bounded T (convergeRec p) := by
  obtain ⟨b1, b2⟩ := h
  unfold convergeRec
  split
  · rename_i he
    exact ⟨by rw [← he]; exact Nat.le_max_left _ _, b2⟩
  · rename_i he
    exact ⟨decrease_le _ _ T b1, fun h0 => absurd (by rw [h0, b2 h0]) he⟩

theorem orig_le_convergeRec (p : Rec) : (convergeRec p).orig ≤ (convergeRec p).cur := by
  unfold convergeRec
  split
  · rename_i he; exact Nat.le_of_eq he
  · show p.orig ≤ decrease p.orig p.cur
    unfold decrease
    simp only
    split
    · exact Nat.le_refl _
    · rename_i hlt; exact Nat.le_of_not_lt hlt

theorem convergeRec_pos (p : Rec) : Pos (convergeRec p) :=
  fun ho => Nat.lt_of_lt_of_le ho (orig_le_convergeRec p)

theorem converge_bounded (T : Nat) (ps : List Rec) (h : ∀ p ∈ ps, Bounded (4 * T) p) :
    ∀ q ∈ (converge ps).1, Bounded T q :=
  (converge_scaled ps).bounded (List.forall_mem_map.mpr fun p hp => convergeRec_bounded (h p hp))

theorem converge_pos (ps : List Rec) : ∀ q ∈ (converge ps).1, Pos q :=
  (converge_scaled ps).pos (List.forall_mem_map.mpr fun p _ => convergeRec_pos p)

theorem markRec_bounded {q : Rec × Bool} (h : Bounded fsmMaxWeight q.1) : Bounded fsmMaxWeight (markRec q) := by
  unfold markRec
  split
  · rename_i hg
    unfold grows at hg
    simp only [Bool.and_eq_true, decide_eq_true_eq] at hg
    exact ⟨Nat.le_trans hg.2 (Nat.le_max_right _ _), fun h0 => by simp [increase, h.2 h0]⟩
  · exact h

theorem cur_le_markRec (q : Rec × Bool) : q.1.cur ≤ (markRec q).cur := by
  unfold markRec
  split
  · exact Nat.le_mul_of_pos_right _ (by decide)
  · exact Nat.le_refl _

theorem markRec_pos {q : Rec × Bool} (h : Pos q.1) : Pos (markRec q) := by
  intro ho
  -- `markRec` leaves `orig` alone
  have ho' : 0 < q.1.orig := by unfold markRec at ho; split at ho <;> exact ho
  exact Nat.le_trans (h ho') (cur_le_markRec q)

theorem setMarked_bounded (ps : List (Rec × Bool)) (h : ∀ q ∈ ps, Bounded fsmMaxWeight q.1) :
    ∀ r ∈ (setMarked ps).1, Bounded fsmMaxWeight r :=
  (setMarked_scaled ps).bounded (List.forall_mem_map.mpr fun q hq => markRec_bounded (h q hq))

theorem setMarked_pos (ps : List (Rec × Bool)) (h : ∀ q ∈ ps, Pos q.1) : ∀ r ∈ (setMarked ps).1, Pos r :=
  (setMarked_scaled ps).pos (List.forall_mem_map.mpr fun q hq => markRec_pos (h q hq))

/-- same configured and effective weights, record by record (meters may differ) -/
def SameWeights (ps qs : List Rec) : Prop :=
  ps.map (fun p => (p.orig, p.cur)) = qs.map (fun p => (p.orig, p.cur))

theorem SameWeights.forall {ps qs : List Rec} (h : SameWeights ps qs) (Q : Nat → Nat → Prop)
    (hq : ∀ p ∈ ps, Q p.orig p.cur) : ∀ q ∈ qs, Q q.orig q.cur := by
  intro q hq'
  have : (q.orig, q.cur) ∈ qs.map (fun p => (p.orig, p.cur)) := List.mem_map.mpr ⟨q, hq', rfl⟩
  rw [← h] at this
  obtain ⟨p, hp, e⟩ := List.mem_map.mp this
  have e1 : p.orig = q.orig := congrArg Prod.fst e
  have e2 : p.cur = q.cur := congrArg Prod.snd e
  rw [← e1, ← e2]
  exact hq p hp

-- the two lambdas below are the bodies of `Bounded T` and `Pos`, as predicates on `(orig, cur)`
theorem SameWeights.bounded {ps qs : List Rec} (h : SameWeights ps qs) {T : Nat}
    (hb : ∀ p ∈ ps, Bounded T p) : ∀ q ∈ qs, Bounded T q :=
  h.forall (fun o c => c ≤ max o T ∧ (o = 0 → c = 0)) hb

theorem SameWeights.pos {ps qs : List Rec} (h : SameWeights ps qs) (hb : ∀ p ∈ ps, Pos p) : ∀ q ∈ qs, Pos q :=
  h.forall (fun o c => 0 < o → 1 ≤ c) hb

theorem convergeRec_final {p : Rec} (h : Bounded 4 p) : (convergeRec p).cur = (convergeRec p).orig := by
  -- the bound of the other five steps once more, at `T = 1`, against `orig_le_convergeRec`
  obtain ⟨b1, b2⟩ := convergeRec_bounded (T := 1) h
  by_cases h0 : (convergeRec p).orig = 0
  · rw [h0, b2 h0]
  · rw [Nat.max_eq_left (Nat.pos_of_ne_zero h0)] at b1
    exact Nat.le_antisymm b1 (orig_le_convergeRec p)

/-- proportional to the configured weights -/
def Proportional (ps : List Rec) : Prop := ∃ g, 0 < g ∧ ∀ q ∈ ps, q.cur * g = q.orig

theorem converge_final (ps : List Rec) (h : ∀ p ∈ ps, Bounded 4 p) : Proportional (converge ps).1 := by
  unfold Proportional
  obtain ⟨D, hD, he, hdvd⟩ := converge_scaled ps
  refine ⟨D, hD, ?_⟩
  rw [he]
  intro q hq
  obtain ⟨m, hm, rfl⟩ := List.mem_map.mp hq
  obtain ⟨p, hp, rfl⟩ := List.mem_map.mp hm
  show (convergeRec p).cur / D * D = (convergeRec p).orig
  rw [Nat.div_mul_cancel (hdvd _ hm), convergeRec_final (h p hp)]

/-- **six converging adjustments restore the configured proportions**, whatever the weights were -/
theorem converge_six (p0 p1 p2 p3 p4 p5 p6 : List Rec) (h : ∀ p ∈ p0, Bounded 4096 p)
    (h1 : p1 = (converge p0).1) (h2 : p2 = (converge p1).1) (h3 : p3 = (converge p2).1)
    (h4 : p4 = (converge p3).1) (h5 : p5 = (converge p4).1) (h6 : p6 = (converge p5).1) :
    Proportional p6 := by
  have s1 : ∀ p ∈ p1, Bounded 1024 p := h1 ▸ converge_bounded 1024 p0 h
  have s2 : ∀ p ∈ p2, Bounded 256 p := h2 ▸ converge_bounded 256 p1 s1
  have s3 : ∀ p ∈ p3, Bounded 64 p := h3 ▸ converge_bounded 64 p2 s2
  have s4 : ∀ p ∈ p4, Bounded 16 p := h4 ▸ converge_bounded 16 p3 s3
  have s5 : ∀ p ∈ p5, Bounded 4 p := h5 ▸ converge_bounded 4 p4 s4
  exact h6 ▸ converge_final p5 s5

/-- everything but `cur`: what an adjustment leaves alone -/
def Rec.rest (p : Rec) : PoolM.URL × Nat × Rat × Bool := (p.url, p.orig, p.rating, p.ready)

theorem convergeRec_rest (p : Rec) : (convergeRec p).rest = p.rest := by
  unfold convergeRec; split <;> rfl

theorem markRec_rest (q : Rec × Bool) : (markRec q).rest = q.1.rest := by
  unfold markRec; split <;> rfl

theorem Scaled.rest {qs rs : List Rec} (h : Scaled qs rs) : rs.map Rec.rest = qs.map Rec.rest := by
  obtain ⟨D, _, rfl, _⟩ := h
  rw [List.map_map]; rfl

theorem converge_rest (ps : List Rec) : (converge ps).1.map Rec.rest = ps.map Rec.rest := by
  rw [(converge_scaled ps).rest, List.map_map]
  exact List.map_congr_left fun p _ => convergeRec_rest p

theorem setMarked_rest (ps : List (Rec × Bool)) : (setMarked ps).1.map Rec.rest = ps.map (fun q => q.1.rest) := by
  rw [(setMarked_scaled ps).rest, List.map_map]
  exact List.map_congr_left fun q _ => markRec_rest q

-- `RR.Folds` is imported for the gcd fold and also brings Mathlib's algebra on `ℕ`, so that `sumCur`
-- elaborates identically here and in Range / Props
def sumCur (ps : List Rec) : Nat := (ps.map (·.cur)).sum

theorem sumCur_divCur (ps : List Rec) (D : Nat) (hd : ∀ p ∈ ps, D ∣ p.cur) :
    sumCur (ps.map (Rec.divCur D)) * D = sumCur ps := by
  induction ps with
  | nil => exact Nat.zero_mul D
  | cons p ps ih =>
    have ih := ih fun q hq => hd q (List.mem_cons_of_mem _ hq)
    simp only [sumCur, List.map_cons, List.sum_cons] at ih ⊢
    rw [Nat.add_mul, ih]
    exact congrArg (· + _) (Nat.div_mul_cancel (hd p List.mem_cons_self))

theorem sumCur_markRec_ge (ps : List (Rec × Bool)) : sumCur (ps.map (·.1)) ≤ sumCur (ps.map markRec) := by
  induction ps with
  | nil => exact Nat.le_refl _
  | cons q ps ih => exact Nat.add_le_add (cur_le_markRec q) ih

theorem sumCur_markRec_gt (ps : List (Rec × Bool)) (h : ∃ q ∈ ps, grows q.1 q.2 = true ∧ 0 < q.1.cur) :
    sumCur (ps.map (·.1)) < sumCur (ps.map markRec) := by
  induction ps with
  | nil => obtain ⟨_, h, _⟩ := h; cases h
  | cons q ps ih =>
    obtain ⟨q', hq', hg, hpos⟩ := h
    show q.1.cur + sumCur (ps.map (·.1)) < (markRec q).cur + sumCur (ps.map markRec)
    rcases List.mem_cons.mp hq' with rfl | hm
    · refine Nat.add_lt_add_of_lt_of_le ?_ (sumCur_markRec_ge ps)
      unfold markRec; rw [if_pos hg]
      exact (Nat.lt_mul_iff_one_lt_right hpos).mpr (by decide)
    · exact Nat.add_lt_add_of_le_of_lt (cur_le_markRec q) (ih ⟨q', hm, hg, hpos⟩)

/-- a weight goes from `a' * D` to `a'` while the total goes from `S` to `S'`: `a' / S' ≤ a' * D / S`,
    cross-multiplied so that `D` is never cancelled -/
theorem share_le_of_scaled {a' S S' D : Nat} (h : S ≤ S' * D) : a' * S ≤ a' * D * S' := by
  rw [Nat.mul_assoc, Nat.mul_comm D S']
  exact Nat.mul_le_mul_left _ h

theorem share_lt_of_scaled {a' S S' D : Nat} (ha : 0 < a') (h : S < S' * D) : a' * S < a' * D * S' := by
  rw [Nat.mul_assoc, Nat.mul_comm D S']
  exact Nat.mul_lt_mul_of_pos_left h ha

/-- **a marked adjustment never raises the share of a record that is not marked good** (cross-multiplied:
    `cur'ᵢ / Σcur' ≤ curᵢ / Σcur`), **and lowers it when some good record below the cap has weight** -/
theorem setMarked_share (ps : List (Rec × Bool)) {i : Nat} {p p' : Rec} (hp : ps[i]? = some (p, false))
    (hp' : (setMarked ps).1[i]? = some p') :
    p'.cur * sumCur (ps.map (·.1)) ≤ p.cur * sumCur (setMarked ps).1 ∧
    (0 < p.cur → (∃ q ∈ ps, grows q.1 q.2 = true ∧ 0 < q.1.cur) →
      p'.cur * sumCur (ps.map (·.1)) < p.cur * sumCur (setMarked ps).1) := by
  -- the new weights are those of `markRec` (which leaves `p` alone) divided by `D`
  obtain ⟨D, hD, he, hdvd⟩ := setMarked_scaled ps
  have hm : markRec (p, false) = p := by simp [markRec, grows]
  have hs : sumCur (setMarked ps).1 * D = sumCur (ps.map markRec) := by rw [he]; exact sumCur_divCur _ D hdvd
  have hpd : p'.cur * D = p.cur := by
    simp only [he, List.getElem?_map, hp, Option.map_some, Option.some.injEq, hm] at hp'
    rw [← hp']
    refine Nat.div_mul_cancel ?_
    exact hm ▸ hdvd _ (List.mem_map.mpr ⟨_, List.mem_of_getElem? hp, rfl⟩)
  rw [← hpd]
  refine ⟨share_le_of_scaled (hs ▸ sumCur_markRec_ge ps), fun hpos hg => ?_⟩
  have hpos' : 0 < p'.cur := Nat.pos_of_mul_pos_right (hpd.symm ▸ hpos : 0 < p'.cur * D)
  exact share_lt_of_scaled hpos' (hs ▸ sumCur_markRec_gt ps hg)

end RB
