import OxyModel.Proofs.Rebal.Share
import OxyModel.Proofs.RR.Window

/-! Behind the rebalancer, on the balancer's own (`ServerWeight`) weights: configured vs effective weight
of a server, servability, and the share theorem `Reb.adjust_share` for a request (`Sys.serve_share`). -/
namespace RB
open PoolM RR

theorem Sys.effective_of_configured {s : Sys} (h : s.Inv) (hv : s.viaRb = true) {k : Key} {w : Nat}
    (hc : s.reb.configured k = some w) :
    ∃ p ∈ s.reb.servers, p.key = k ∧ p.orig = w ∧ s.bal.weight k = some p.cur := by
  obtain ⟨p, hp, hk, hw⟩ := (h.reb hv).configured_iff.mp hc
  exact ⟨p, hp, hk, hw, (h.reb hv).weight_iff.mpr ⟨p, hp, hk, rfl⟩⟩

/-- with a positive weight in the pool, selection succeeds (C01: never an error, never out of fuel) -/
theorem Sys.next_sel {s : Sys} (h : s.Inv) (hp : ∃ w ∈ s.bal.ws, 0 < w) :
    ∃ i, (next s.bal.ws s.bal.it).1 = .sel i ∧ i < s.bal.ws.length ∧ 0 < s.bal.ws.getD i 0 := by
  obtain ⟨j, hj⟩ := h.bal.orbit
  obtain ⟨i, s', e, hi, hpos⟩ := next_after_sel s.bal.ws hp j
  exact ⟨i, by rw [hj, e], hi, hpos⟩

theorem Sys.serve_forwarded {s : Sys} (h : s.Inv) (hp : ∃ w ∈ s.bal.ws, 0 < w) (cookie : Option Key) (mt : Option Mut) :
    ∃ y f, (s.step (.serve cookie mt)).2 = .forwarded y f := by
  obtain ⟨b', _, hstep⟩ := Sys.step_serve h cookie mt
  rcases hstep with ⟨e, _, he, hne⟩ | ⟨x, _, he⟩
  · -- the error response is only given when the selection failed
    obtain ⟨i, hsel, _, _⟩ := Sys.next_sel h hp
    exact absurd (he.symm.trans hsel) (hne i)
  · exact ⟨x, true, by rw [he]⟩

theorem Sys.serve_ws_cases {s : Sys} (h : s.Inv) (hv : s.viaRb = true) (cookie : Option Key) (mt : Option Mut) :
    ((∃ e, (s.step (.serve cookie mt)).2 = .failed e) ∧ (s.step (.serve cookie mt)).1.bal.ws = s.bal.ws) ∨
    (s.step (.serve cookie mt)).1.bal.ws = (s.reb.adjust s.now).servers.map (·.cur) := by
  obtain ⟨b', hf, hstep⟩ := Sys.step_serve h cookie mt
  rcases hstep with ⟨e, he, _⟩ | ⟨x, _, he⟩
  · rw [he]; exact Or.inl ⟨⟨e, rfl⟩, hf.ws⟩
  · right
    rw [he, if_pos hv]
    obtain ⟨hinv, _⟩ := Sys.withBal_spec h hf
    show ((s.withBal b').reb.adjust s.now).bal.ws = _
    rw [← (Reb.adjust_spec (hinv.reb hv) s.now).inv.ws]
    exact congrArg (List.map (·.cur)) (Reb.adjust_servers_bal s.reb b' s.now)

/-- **shares on the observable weights**: `Reb.adjust_share` read off the balancer's `ServerWeight`s
    before and after a request -/
theorem Sys.serve_share {s : Sys} (h : s.Inv) (hv : s.viaRb = true) (hm : s.reb.marks.2 = true) {i : Nat}
    (hbad : s.reb.marks.1[i]? = some false) (cookie : Option Key) (mt : Option Mut) :
    (s.step (.serve cookie mt)).1.bal.ws.getD i 0 * s.bal.ws.sum
      ≤ s.bal.ws.getD i 0 * (s.step (.serve cookie mt)).1.bal.ws.sum ∧
    (s.reb.due s.now → 0 < s.bal.ws.getD i 0 →
      (∃ (j g : Nat), s.reb.marks.1[j]? = some true ∧ s.bal.ws[j]? = some g ∧ 0 < g ∧ 4 * g ≤ 4096) →
      (s.step (.serve cookie mt)).1.bal.ws.getD i 0 * s.bal.ws.sum
        < s.bal.ws.getD i 0 * (s.step (.serve cookie mt)).1.bal.ws.sum) := by
  have hws : s.bal.ws = s.reb.servers.map (·.cur) := (h.reb hv).ws.symm
  have hl : i < s.reb.servers.length := by
    rw [← Reb.marks_length]
    exact (List.getElem?_eq_some_iff.mp hbad).1
  have hl' : i < (s.reb.adjust s.now).servers.length := by
    have := congrArg List.length (Reb.adjust_spec (h.reb hv) s.now).rest
    rw [List.length_map, List.length_map] at this
    rw [this]; exact hl
  have hsh := Reb.adjust_share s.reb s.now hm (List.getElem?_eq_getElem hl) (List.getElem?_eq_getElem hl') hbad
  have hgd : s.bal.ws.getD i 0 = s.reb.servers[i].cur := by
    rw [hws, List.getD_eq_getElem?_getD, List.getElem?_map, List.getElem?_eq_getElem hl]; rfl
  rcases Sys.serve_ws_cases h hv cookie mt with ⟨⟨e, he⟩, hsame⟩ | hadj
  · rw [hsame]
    refine ⟨Nat.le_refl _, ?_⟩
    rintro - - ⟨j, g, -, hg, hgpos, -⟩
    -- a positive weight: the request is forwarded, not answered with the error
    obtain ⟨y, f, hfw⟩ := Sys.serve_forwarded h ⟨g, List.mem_of_getElem? hg, hgpos⟩ cookie mt
    rw [he] at hfw; cases hfw
  · have hgd' : ((s.reb.adjust s.now).servers.map (·.cur)).getD i 0 = (s.reb.adjust s.now).servers[i].cur := by
      rw [List.getD_eq_getElem?_getD, List.getElem?_map, List.getElem?_eq_getElem hl']; rfl
    rw [hadj, hgd, hgd', hws]
    refine ⟨hsh.1, ?_⟩
    rintro hd hpos ⟨j, g, hgood, hg, hgpos, hgcap⟩
    rw [List.getElem?_map] at hg
    obtain ⟨q, hq, rfl⟩ := Option.map_eq_some_iff.mp hg
    exact hsh.2 hd hpos ⟨j, q, hq, hgood, hgpos, hgcap⟩

end RB
