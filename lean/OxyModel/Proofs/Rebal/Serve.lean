import OxyModel.Proofs.Rebal.Sys

/-! What selections and requests can return, in terms of the pool before the operation. -/
namespace RB
open PoolM RR

/-- the URL a `NextServer()` call returned or a request was forwarded to -/
def Out.routedTo : Out → Option URL
  | .next _ (some x) => some x
  | .forwarded x _ => some x
  | _ => none

/-- is the operation an add / update of this key -/
def Op.upsertsKey (k : Key) : Op → Prop
  | .upsert u _ => u.key = k
  | .upsertFailing u _ => u.key = k
  | _ => False

/-- `Sys.step_next` without the witness `b'`: the four equations the inductions over consecutive calls
    rewrite with -/
theorem Sys.step_next_out {s : Sys} (h : s.Inv) :
    (s.step .next).2 = nextOut s.servers (next s.bal.ws s.bal.it).1 ∧
    (s.step .next).1.bal.ws = s.bal.ws ∧ (s.step .next).1.bal.it = (next s.bal.ws s.bal.it).2 ∧
    (s.step .next).1.servers = s.servers := by
  obtain ⟨b', hf, hit, e⟩ := Sys.step_next h
  rw [e]
  exact ⟨rfl, hf.ws, hit, hf.urls⟩

/-- **whatever is selected or forwarded to is a stored URL of the pool as it was before the call,
    and a forwarded request never carries one of the pool's own objects** -/
theorem Sys.routed_member {s : Sys} (h : s.Inv) (op : Op) {x : URL} (hx : (s.step op).2.routedTo = some x) :
    x ∈ s.servers ∧ ∀ y f, (s.step op).2 = .forwarded y f → f = true := by
  cases op with
  | next =>
    rw [(Sys.step_next_out h).1] at hx ⊢
    by_cases hn : ∃ i, (next s.bal.ws s.bal.it).1 = .sel i
    · obtain ⟨i, hn⟩ := hn
      rw [hn] at hx
      cases hx
      exact ⟨(Bal.deref_sel h.bal hn).2, fun y f hy => by cases hy⟩
    · rw [nextOut_err fun i hi => hn ⟨i, hi⟩] at hx
      cases hx
  | serve cookie mt =>
    obtain ⟨b', _, hstep⟩ := Sys.step_serve h cookie mt
    rcases hstep with ⟨e, he, _⟩ | ⟨x', hx', he⟩
    · rw [he] at hx; cases hx
    · rw [he] at hx ⊢
      cases hx
      exact ⟨hx', fun y f hy => by cases hy; rfl⟩
  -- every other call answers `ok` or an error, which carry no URL
  | upsert u w => rcases w with _ | w | w <;> cases hx
  | upsertFailing u w =>
    rw [Sys.step_upsertFailing] at hx
    split at hx <;> cases hx
  | remove u =>
    cases hv : s.viaRb
    · rw [Sys.step_remove_bare hv] at hx
      split at hx <;> cases hx
    · rw [Sys.step_remove_reb hv] at hx
      split at hx <;> cases hx
  | rate k v =>
    rw [Sys.step_rate] at hx
    split at hx <;> cases hx
  | ready k v =>
    rw [Sys.step_ready] at hx
    split at hx <;> cases hx
  | adv ns => cases hx

theorem specStep_isSome {v : Bool} {sp : Spec} {op : Op} {k : Key} (hk : (specStep v sp op k).isSome) :
    (sp k).isSome ∨ op.upsertsKey k := by
  cases op with
  | upsert u w =>
    by_cases he : k = u.key
    · exact Or.inr he.symm
    · left
      rcases w with _ | w | w
      · simp only [specStep] at hk
        rwa [Spec.upsert_of_ne he] at hk
      · simp only [specStep] at hk
        rwa [Spec.upsert_of_ne he] at hk
      · exact hk
  | upsertFailing u w =>
    by_cases he : k = u.key
    · exact Or.inr he.symm
    · left
      simp only [specStep] at hk
      split at hk
      · exact hk
      · rwa [Spec.upsert_of_ne he] at hk
  | remove u =>
    left
    simp only [specStep] at hk
    by_cases he : k = u.key
    · rw [he, Spec.remove_self] at hk; cases hk
    · rwa [Spec.remove_of_ne he] at hk
  | _ => exact Or.inl hk

theorem Sys.step_keys {s : Sys} (h : s.Inv) (op : Op) (k : Key) :
    k ∈ (s.step op).1.bal.view.keys → k ∈ s.bal.view.keys ∨ op.upsertsKey k := by
  have hsp := Sys.step_spec h op
  rw [hsp.1.mem_keys, hsp.2.1, h.mem_keys]
  exact specStep_isSome

theorem Sys.servers_keys (s : Sys) {x : URL} (hx : x ∈ s.servers) : x.key ∈ s.bal.view.keys :=
  List.mem_map.mpr ⟨x, hx, rfl⟩

/-- a key that is not in the pool is not routed to by any later operation, until it is upserted -/
theorem Sys.absent_never_routed (tail : List Op) : ∀ {s : Sys}, s.Inv → ∀ {k : Key}, k ∉ s.bal.view.keys →
    (∀ op ∈ tail, ¬ op.upsertsKey k) → ∀ out ∈ s.outs tail, ∀ x, out.routedTo = some x → x.key ≠ k := by
  induction tail with
  | nil => intro s _ k _ _ out ho; simp [Sys.outs] at ho
  | cons op tail ih =>
    intro s h k hk hno out ho x hx
    simp only [Sys.outs, List.mem_cons] at ho
    rcases ho with rfl | ho
    · intro e
      have := (Sys.routed_member h op hx).1
      exact hk (e ▸ Sys.servers_keys s this)
    · have hinv := (Sys.step_spec h op).1
      have hk' : k ∉ (s.step op).1.bal.view.keys := by
        intro hm
        rcases Sys.step_keys h op k hm with h1 | h1
        · exact hk h1
        · exact hno op List.mem_cons_self h1
      exact ih hinv hk' (fun o ho' => hno o (List.mem_cons_of_mem _ ho')) out ho x hx

theorem Sys.outs_nexts (n : Nat) : ∀ {s : Sys}, s.Inv →
    s.outs (List.replicate n .next) = (run s.bal.ws n s.bal.it).map (nextOut s.servers) := by
  induction n with
  | zero => intro s _; rfl
  | succ n ih =>
    intro s h
    obtain ⟨hout, hws, hit, hservers⟩ := Sys.step_next_out h
    have hinv := (Sys.step_spec h .next).1
    simp only [List.replicate_succ, Sys.outs, run, List.map_cons]
    rw [hout, ih hinv, hws, hit, hservers]

/-- the state after `n` consecutive `NextServer()` calls: only the iterator has moved, `n` calls on -/
theorem Sys.applyOps_nexts (n : Nat) : ∀ {s : Sys}, s.Inv →
    (s.applyOps (List.replicate n .next)).Inv ∧
    (s.applyOps (List.replicate n .next)).bal.ws = s.bal.ws ∧
    (s.applyOps (List.replicate n .next)).bal.it = after s.bal.ws n s.bal.it ∧
    (s.applyOps (List.replicate n .next)).servers = s.servers := by
  induction n with
  | zero => intro s h; exact ⟨h, rfl, rfl, rfl⟩
  | succ n ih =>
    intro s h
    obtain ⟨_, hws, hit, hservers⟩ := Sys.step_next_out h
    obtain ⟨hinv', hws', hit', hservers'⟩ := ih (Sys.step_spec h .next).1
    simp only [List.replicate_succ, Sys.applyOps, List.foldl_cons] at hinv' hws' hit' hservers' ⊢
    refine ⟨hinv', hws'.trans hws, ?_, hservers'.trans hservers⟩
    rw [hit', hws, hit]; rfl

theorem Sys.outs_nexts_after (j n : Nat) {s : Sys} (h : s.Inv) :
    (s.applyOps (List.replicate j .next)).outs (List.replicate n .next) =
      (run s.bal.ws n (after s.bal.ws j s.bal.it)).map (nextOut s.servers) := by
  obtain ⟨hinv, hws, hit, hservers⟩ := Sys.applyOps_nexts j h
  rw [Sys.outs_nexts n hinv, hws, hit, hservers]

/-- `hnext`: the selection fails without moving the iterator (empty or all-zero pool) -/
theorem Sys.step_unrouted {s : Sys} (h : s.Inv) {cookie : Option Key} (hstuck : s.bal.stuckRef s.sticky cookie = none)
    {e : Res} (hnext : next s.bal.ws s.bal.it = (e, s.bal.it)) (hne : ∀ i, e ≠ .sel i) (mt : Option Mut) :
    s.step (.serve cookie mt) = (s, .failed e) ∧ (s.step .next).2 = .next e none := by
  have hn : ∀ i, (next s.bal.ws s.bal.it).1 ≠ .sel i := by rw [hnext]; exact hne
  constructor
  · rw [Sys.step_serve_err (Bal.route_err hstuck hn), hnext]
    rfl
  · rw [(Sys.step_next_out h).1, hnext, nextOut_err hne]

theorem Sys.all_zero_of_spec {s : Sys} (h : s.Inv)
    (hz : ∀ k w, s.spec k = some w → w = 0) : ∀ w ∈ s.bal.ws, w = 0 := by
  intro w hw
  by_cases hv : s.viaRb = true
  · -- behind the rebalancer: `w` is the `curWeight` of a record whose `origWeight` is configured as 0
    have hinv := h.reb hv
    rw [show s.bal.ws = s.reb.servers.map (·.cur) from hinv.ws.symm] at hw
    obtain ⟨p, hp, rfl⟩ := List.mem_map.mp hw
    have hc : s.reb.configured p.key = some p.orig := hinv.configured_iff.mpr ⟨p, hp, rfl, rfl⟩
    exact (hinv.bounded p hp).2 (hz _ _ (Sys.spec_reb hv ▸ hc))
  · obtain ⟨i, hi, rfl⟩ := List.getElem_of_mem hw
    have hk : i < s.bal.view.keys.length := by rw [← h.bal.view.len]; exact hi
    have hc : s.bal.weight s.bal.view.keys[i] = some s.bal.ws[i] :=
      (Pool.weight_some h.bal.view).mpr ⟨i, hk, rfl, rfl⟩
    exact hz _ _ (Sys.spec_bare (Sys.viaRb_false hv) ▸ hc)

theorem Sys.bal_nil_of_spec {s : Sys} (h : s.Inv)
    (hz : ∀ k, s.spec k = none) : s.bal.refs = [] ∧ s.bal.ws = [] := by
  have hk : s.bal.view.keys = [] := by
    apply List.eq_nil_iff_forall_not_mem.mpr
    intro k hk
    rw [h.mem_keys, hz k] at hk
    cases hk
  have h1 : s.bal.refs = [] := Bal.view_keys_eq_nil.mp hk
  refine ⟨h1, ?_⟩
  apply List.eq_nil_of_length_eq_zero
  rw [h.bal.len, h1]; rfl

theorem Sys.upsert_it {s : Sys} (h : s.Inv) (u : URL) (w : Option Nat) : (s.upserted u w).bal.it = It.reset := by
  by_cases hv : s.viaRb = true
  · rw [Sys.upserted_reb hv]
    obtain ⟨hrestored, hshadow⟩ := Reb.upsert_spec (h.reb hv) s.now u w
    refine hrestored.it fun he => ?_
    have hk : u.key ∈ (s.reb.upsert s.now u w).shadow.keys := by
      rw [hshadow, Pool.mem_upsert_keys]; exact Or.inl rfl
    rw [Reb.shadow_keys, he] at hk
    cases hk
  · rw [Sys.upserted_bare (Sys.viaRb_false hv)]
    exact Bal.upsert_it _ _ _

end RB
