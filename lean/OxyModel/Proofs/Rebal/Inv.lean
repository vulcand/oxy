import OxyModel.Proofs.Pool.Bal
import OxyModel.Proofs.Rebal.Arith

/-! The rebalancer over its balancer: the invariant `Reb.Inv`; the shadow records' configured weights
follow the administration calls (`Reb.shadow` after an add / update / remove is `Pool.upsert` /
`Pool.remove` of the one before); every membership change ends in `reset()`, and `Reb.Restored` is what
that leaves. -/
namespace RB
open PoolM RR

theorem map_modify_same {α β : Type} (g : α → β) (f : α → α) (h : ∀ a, g (f a) = g a) (l : List α) (i : Nat) :
    (l.modify i f).map g = l.map g := by
  apply List.ext_getElem?
  intro j
  simp only [List.getElem?_map, List.getElem?_modify]
  cases l[j]? with
  | none => rfl
  | some a => by_cases hij : i = j <;> simp [hij, h]

theorem map_modify_set {α β : Type} (g : α → β) (f : α → α) (x : β) (h : ∀ a, g (f a) = x) (l : List α) (i : Nat) :
    (l.modify i f).map g = (l.map g).set i x := by
  rw [List.modify_eq_set_getElem?]
  cases hl : l[i]? with
  | none =>
    have : (l.map g).length ≤ i := by rw [List.length_map]; exact List.getElem?_eq_none_iff.mp hl
    rw [List.set_eq_of_length_le this]; rfl
  | some a => simp only [Option.map_eq_map, Option.map_some, Option.getD_some, List.map_set, h]

theorem mem_keys_of_map_eq {ps : List Rec} {ks : List Key} (hk : ps.map Rec.key = ks) : ∀ s ∈ ps, s.key ∈ ks :=
  fun _ hs => hk ▸ List.mem_map_of_mem hs

theorem applyWeights_wf (ps : List Rec) : ∀ {b : Bal}, b.WF → (Reb.applyWeights b ps).WF := by
  induction ps with
  | nil => exact id
  | cons s ps ih => exact fun hb => ih (Bal.upsert_wf hb s.url (some s.cur))

/-- `applyWeights` of known servers allocates nothing: stored URLs, references and heap stay -/
theorem applyWeights_frame (ps : List Rec) : ∀ (b : Bal), (∀ s ∈ ps, s.key ∈ b.view.keys) →
    (Reb.applyWeights b ps).urls = b.urls ∧ (Reb.applyWeights b ps).refs = b.refs ∧
    (Reb.applyWeights b ps).heap = b.heap := by
  induction ps with
  | nil => intro b _; exact ⟨rfl, rfl, rfl⟩
  | cons s ps ih =>
    intro b hm
    have e : Reb.applyWeights b (s :: ps) = Reb.applyWeights (b.upsert s.url (some s.cur)) ps := rfl
    rw [e, Bal.upsert_of_mem (hm s List.mem_cons_self)]
    exact ih _ fun t ht => hm t (List.mem_cons_of_mem _ ht)

theorem applyWeights_refs (ps : List Rec) (b : Bal) (hm : ∀ s ∈ ps, s.key ∈ b.view.keys) :
    (Reb.applyWeights b ps).refs = b.refs := (applyWeights_frame ps b hm).2.1

theorem applyWeights_heap (ps : List Rec) (b : Bal) (hm : ∀ s ∈ ps, s.key ∈ b.view.keys) :
    (Reb.applyWeights b ps).heap = b.heap := (applyWeights_frame ps b hm).2.2

/-- whatever the records, `applyWeights` never shrinks the heap -/
theorem applyWeights_heap_le (ps : List Rec) : ∀ (b : Bal), b.heap.length ≤ (Reb.applyWeights b ps).heap.length := by
  induction ps with
  | nil => intro b; exact Nat.le_refl _
  | cons s ps ih => intro b; exact Nat.le_trans (Bal.upsert_heap_le b s.url (some s.cur)) (ih _)

theorem applyWeights_it (ps : List Rec) : ∀ (b : Bal), ps ≠ [] → (Reb.applyWeights b ps).it = It.reset := by
  induction ps with
  | nil => intro b h; exact absurd rfl h
  | cons s ps ih =>
    intro b _
    by_cases hp : ps = []
    · subst hp; exact Bal.upsert_it b s.url (some s.cur)
    · exact ih (b.upsert s.url (some s.cur)) hp

/-- the loop of `applyWeights` over the records still to do, one per remaining server in pool order: the
    weights `wd` written so far stay, those of `ps` replace the old ones `wt`, nothing else changes -/
theorem applyWeights_mid (ps : List Rec) : ∀ (b : Bal) (done : List Key) (wd wt : List Nat),
    b.view.keys = done ++ ps.map Rec.key → b.ws = wd ++ wt → wd.length = done.length → wt.length = ps.length →
    b.view.keys.Nodup → ∃ it, Reb.applyWeights b ps = { b with ws := wd ++ ps.map (·.cur), it := it } := by
  induction ps with
  | nil =>
    intro b done wd wt _ hw _ ht _
    rw [List.length_eq_zero_iff.mp ht] at hw
    exact ⟨b.it, by show b = { b with ws := wd ++ [], it := b.it }; rw [← hw]⟩
  | cons s ps ih =>
    intro b done wd wt hk hw hd ht hn
    obtain _ | ⟨w0, wt⟩ := wt
    · cases ht
    have hkd : s.key ∉ done := fun h => (List.nodup_append.mp (hk ▸ hn)).2.2 _ h _ List.mem_cons_self rfl
    -- this record's server is known, at position `done.length`: its weight `w0` is overwritten
    have hup : b.upsert s.url (some s.cur) = { b with ws := wd ++ s.cur :: wt, it := It.reset } := by
      rw [Bal.upsert_of_mem (hk ▸ List.mem_append_right _ List.mem_cons_self)]
      show ({ b with ws := ((⟨b.view.keys, b.ws, b.it⟩ : Pool Key).upsert s.key (some s.cur)).ws, it := It.reset } : Bal) = _
      rw [hk, hw, List.map_cons, Pool.upsert_mid hkd hd]
      rfl
    obtain ⟨it, e⟩ := ih { b with ws := wd ++ s.cur :: wt, it := It.reset } (done ++ [s.key]) (wd ++ [s.cur]) wt
      (by rw [List.append_assoc]; exact hk) (by rw [List.append_assoc]; rfl) (by simp [hd]) (Nat.succ.inj ht) hn
    refine ⟨it, ?_⟩
    show Reb.applyWeights (b.upsert s.url (some s.cur)) ps = _
    rw [hup, e, List.append_assoc]
    rfl

/-- `hk`: one record per server, in pool order, as `reset()` and `adjustWeights()` call it -/
theorem applyWeights_spec {b : Bal} (hb : b.WF) (ps : List Rec) (hk : ps.map Rec.key = b.view.keys) :
    (Reb.applyWeights b ps).WF ∧ (Reb.applyWeights b ps).view.keys = b.view.keys ∧
    (Reb.applyWeights b ps).ws = ps.map (·.cur) ∧ (Reb.applyWeights b ps).urls = b.urls := by
  obtain ⟨it, e⟩ := applyWeights_mid ps b [] [] b.ws hk.symm rfl rfl
    (by rw [hb.len, ← Bal.view_keys_length, ← hk, List.length_map]) hb.nodup
  refine ⟨applyWeights_wf ps hb, ?_⟩
  rw [e]
  exact ⟨rfl, rfl, rfl⟩

/-- every reachable rebalancer: the shadow records are the balancer's servers in the same order, their
    `curWeight`s are the balancer's weights and stay in range -/
structure Reb.Inv (r : Reb) : Prop where
  bal : r.bal.WF
  keys : r.servers.map Rec.key = r.bal.view.keys
  ws : r.servers.map (·.cur) = r.bal.ws
  bounded : ∀ p ∈ r.servers, Bounded fsmMaxWeight p
  pos : ∀ p ∈ r.servers, Pos p

theorem Reb.init_inv (bo : Nat) (nr : Bool) : (Reb.init bo nr).Inv :=
  ⟨Bal.empty_wf, rfl, rfl, by simp [Reb.init], by simp [Reb.init]⟩

theorem Reb.Inv.withBal {r : Reb} (h : r.Inv) {b' : Bal} (hf : r.bal.Frame b') : ({ r with bal := b' } : Reb).Inv := by
  have hkeys : r.servers.map Rec.key = b'.view.keys := by rw [Bal.view_keys, hf.urls]; exact h.keys
  have hws : r.servers.map (·.cur) = b'.ws := by rw [hf.ws]; exact h.ws
  exact ⟨hf.wf, hkeys, hws, h.bounded, h.pos⟩

/-- keys and configured weights of the shadow records, as an `RR.Pool` -/
def Reb.shadow (r : Reb) : Pool Key := ⟨r.servers.map Rec.key, r.servers.map (·.orig), It.reset⟩

/-- the configured weight the rebalancer remembers for a key -/
def Reb.configured (r : Reb) (k : Key) : Option Nat := r.shadow.weight k

theorem Reb.shadow_keys (r : Reb) : r.shadow.keys = r.servers.map Rec.key := rfl
theorem Reb.shadow_ws (r : Reb) : r.shadow.ws = r.servers.map (·.orig) := rfl

theorem Reb.shadow_congr {r1 r2 : Reb} (hk : r1.servers.map Rec.key = r2.servers.map Rec.key)
    (ho : r1.servers.map (·.orig) = r2.servers.map (·.orig)) : r1.shadow = r2.shadow := by
  unfold Reb.shadow; rw [hk, ho]

theorem Reb.shadow_eq_mk {r : Reb} {ks : List Key} {os : List Nat} (hk : r.servers.map Rec.key = ks)
    (ho : r.servers.map (·.orig) = os) : r.shadow = ⟨ks, os, It.reset⟩ := by
  unfold Reb.shadow; rw [hk, ho]

/-- the model's `findServer` searches with the product `BEq`, `RR.Pool.find` with the one from
    `DecidableEq`: the same function -/
theorem idxOf_inst (k : Key) (l : List Key) :
    @List.idxOf? Key instBEqProd k l = @List.idxOf? Key instBEqOfDecidableEq k l := by
  unfold List.idxOf?
  congr 1
  funext x
  rw [Bool.eq_iff_iff]; simp

theorem Reb.find_eq (r : Reb) (k : Key) : r.find k = r.shadow.find k := by
  unfold Reb.find Pool.find; rw [Reb.shadow_keys]; exact idxOf_inst _ _

theorem keys_of_rest {ps qs : List Rec} (h : ps.map Rec.rest = qs.map Rec.rest) :
    ps.map Rec.key = qs.map Rec.key := by
  have := congrArg (List.map (fun t : URL × Nat × Rat × Bool => t.1.key)) h
  show ps.map (fun x : Rec => x.url.key) = qs.map (fun x : Rec => x.url.key)
  simpa [List.map_map, Function.comp_def, Rec.rest] using this

theorem shadow_of_rest {r1 r2 : Reb} (h : r1.servers.map Rec.rest = r2.servers.map Rec.rest) :
    r1.shadow = r2.shadow := by
  have ho : r1.servers.map (·.orig) = r2.servers.map (·.orig) := by
    have := congrArg (List.map (fun t : URL × Nat × Rat × Bool => t.2.1)) h
    simpa [List.map_map, Function.comp_def, Rec.rest] using this
  exact Reb.shadow_congr (keys_of_rest h) ho

theorem Reb.Inv.shadow_wf {r : Reb} (h : r.Inv) : r.shadow.WF :=
  ⟨by rw [Reb.shadow_keys, Reb.shadow_ws, List.length_map, List.length_map],
    by rw [Reb.shadow_keys, h.keys]; exact h.bal.nodup⟩

theorem Reb.Inv.weight_iff {r : Reb} (h : r.Inv) {k : Key} {e : Nat} :
    r.bal.weight k = some e ↔ ∃ p ∈ r.servers, p.key = k ∧ p.cur = e := by
  unfold Bal.weight
  rw [Pool.weight_iff_mem_zip h.bal.view, ← h.keys, Bal.view_ws, ← h.ws, List.zip_map', List.mem_map]
  simp only [Prod.mk.injEq]

theorem Reb.Inv.configured_iff {r : Reb} (h : r.Inv) {k : Key} {w : Nat} :
    r.configured k = some w ↔ ∃ p ∈ r.servers, p.key = k ∧ p.orig = w := by
  unfold Reb.configured
  rw [Pool.weight_iff_mem_zip h.shadow_wf]
  show (k, w) ∈ (r.servers.map Rec.key).zip (r.servers.map (·.orig)) ↔ _
  rw [List.zip_map', List.mem_map]
  simp only [Prod.mk.injEq]

theorem Reb.Inv.find_bal {r : Reb} (h : r.Inv) (k : Key) : r.bal.view.find k = r.find k := by
  unfold Reb.find Pool.find; rw [h.keys]; exact (idxOf_inst _ _).symm

/-- the state `reset()` leaves, at the end of every successful membership change; `it`: the first weight
    written resets the iterator -/
structure Reb.Restored (r : Reb) (now backoff : Nat) : Prop where
  inv : r.Inv
  cur : ∀ p ∈ r.servers, p.cur = p.orig
  it : r.servers ≠ [] → r.bal.it = It.reset
  timer : r.timer = (now : Int) - second
  backoff : r.backoff = backoff

theorem Reb.Restored.timer_le {r : Reb} {now bo : Nat} (h : r.Restored now bo) :
    r.timer ≤ (now : Int) + r.backoff := by
  rw [h.timer]; unfold second; omega

theorem Reb.Restored.weight {r : Reb} {now bo : Nat} (h : r.Restored now bo) (k : Key) :
    r.bal.weight k = r.configured k :=
  Pool.weight_congr h.inv.keys.symm (h.inv.ws.symm.trans (List.map_congr_left h.cur)) k

theorem Reb.reset_keys {r : Reb} (hk : r.servers.map Rec.key = r.bal.view.keys) (now : Nat) :
    (r.reset now).servers.map Rec.key = r.bal.view.keys := by
  show (r.servers.map fun s => { s with cur := s.orig }).map Rec.key = _
  rw [List.map_map, ← hk]; rfl

/-- `reset()` needs key-synchrony only, not the invariant: its callers have just changed the records -/
theorem Reb.reset_spec {r : Reb} (hb : r.bal.WF) (hk : r.servers.map Rec.key = r.bal.view.keys) (now : Nat) :
    (r.reset now).Restored now r.backoff ∧ (r.reset now).shadow = r.shadow := by
  have hk' := Reb.reset_keys hk now
  obtain ⟨hwf, hkeys, hws, _⟩ := applyWeights_spec hb _ hk'
  have hall : ∀ p ∈ (r.reset now).servers, p.cur = p.orig := by
    intro p hp
    obtain ⟨s, _, rfl⟩ := List.mem_map.mp hp
    rfl
  have hbounded : ∀ p ∈ (r.reset now).servers, Bounded fsmMaxWeight p := fun p hp =>
    ⟨by rw [hall p hp]; exact le_max_left _ _, fun h0 => by rw [hall p hp]; exact h0⟩
  have hpos : ∀ p ∈ (r.reset now).servers, Pos p := fun p hp ho => by rw [hall p hp]; exact ho
  have hinv : (r.reset now).Inv := ⟨hwf, hk'.trans hkeys.symm, hws.symm, hbounded, hpos⟩
  refine ⟨⟨hinv, hall, applyWeights_it _ _, rfl, rfl⟩, ?_⟩
  refine Reb.shadow_congr (hk'.trans hk.symm) ?_
  show (r.servers.map fun s => { s with cur := s.orig }).map (·.orig) = _
  rw [List.map_map]; rfl

/-! What `reset()` leaves alone: the stored URLs, the references, the heap, the meter factory's flag. -/

theorem Reb.reset_urls {r : Reb} (hb : r.bal.WF) (hk : r.servers.map Rec.key = r.bal.view.keys) (now : Nat) :
    (r.reset now).bal.urls = r.bal.urls :=
  (applyWeights_spec hb _ (Reb.reset_keys hk now)).2.2.2

theorem Reb.reset_refs {r : Reb} (hk : r.servers.map Rec.key = r.bal.view.keys) (now : Nat) :
    (r.reset now).bal.refs = r.bal.refs :=
  applyWeights_refs _ _ (mem_keys_of_map_eq (Reb.reset_keys hk now))

theorem Reb.reset_heap {r : Reb} (hk : r.servers.map Rec.key = r.bal.view.keys) (now : Nat) :
    (r.reset now).bal.heap = r.bal.heap :=
  applyWeights_heap _ _ (mem_keys_of_map_eq (Reb.reset_keys hk now))

theorem Reb.reset_newReady (r : Reb) (now : Nat) : (r.reset now).newReady = r.newReady := rfl

/-- the end of `UpsertServer`: the balancer has taken the update (with whatever weight option `w'`), the
    records `ss` are those of the update `w` on the configured weights; then `reset()` -/
theorem Reb.upsert_reset {r : Reb} (h : r.Inv) (now : Nat) (u : URL) (w w' : Option Nat) {ss : List Rec}
    (hsh : ({ r with servers := ss } : Reb).shadow = r.shadow.upsert u.key w) :
    (({ r with bal := r.bal.upsert u w', servers := ss } : Reb).reset now).Restored now r.backoff ∧
    (({ r with bal := r.bal.upsert u w', servers := ss } : Reb).reset now).shadow = r.shadow.upsert u.key w := by
  -- an update adds the key or not whatever the weight: records and balancer stay in step
  have hk : ss.map Rec.key = (r.bal.upsert u w').view.keys := by
    rw [← Reb.shadow_keys { r with servers := ss }, hsh, Bal.upsert_view h.bal, Pool.upsert_keys, Pool.upsert_keys,
      Reb.shadow_keys, h.keys]
  obtain ⟨hrestored, hshadow⟩ :=
    Reb.reset_spec (r := { r with bal := r.bal.upsert u w', servers := ss }) (Bal.upsert_wf h.bal u w') hk now
  exact ⟨hrestored, hshadow.trans hsh⟩

/-- `UpsertServer` through the rebalancer -/
theorem Reb.upsert_spec {r : Reb} (h : r.Inv) (now : Nat) (u : URL) (w : Option Nat) :
    (r.upsert now u w).Restored now r.backoff ∧ (r.upsert now u w).shadow = r.shadow.upsert u.key w := by
  unfold Reb.upsert
  cases hf : r.find u.key with
  | some i =>
    simp only
    have hm : u.key ∈ r.bal.view.keys := Pool.find_isSome.mp (by rw [h.find_bal, hf]; rfl)
    generalize hx : Reb.configuredOf ((r.servers.map (·.orig)).getD i 0) w = x
    -- `ServerWeight` answers the weight just written
    have hwt : (r.bal.upsert u (some x)).weight u.key = some x := by
      unfold Bal.weight
      rw [Bal.upsert_view h.bal, Pool.weight_upsert h.bal.view, if_pos rfl]
      obtain ⟨old, ho⟩ := Option.isSome_iff_exists.mp (Pool.weight_isSome.mpr hm)
      rw [ho]
    rw [hwt]
    simp only [Option.getD_some]
    -- the records with the configured weight of `u` overwritten: same keys, `orig` set at `i`
    have hks : (r.servers.modify i fun s => { s with orig := x }).map Rec.key = r.servers.map Rec.key :=
      map_modify_same Rec.key (fun s => { s with orig := x }) (fun _ => rfl) _ _
    have hos : (r.servers.modify i fun s => { s with orig := x }).map (·.orig) = (r.servers.map (·.orig)).set i x :=
      map_modify_set (fun s : Rec => s.orig) _ x (fun _ => rfl) _ _
    refine Reb.upsert_reset h now u w (some x) ((Reb.shadow_eq_mk hks hos).trans ?_)
    unfold Pool.upsert
    rw [← Reb.find_eq, hf]
    subst hx
    cases w with
    | some w0 => rfl
    | none => exact congrArg (Pool.mk _ · _) (set_getD_self _ _ _)
  | none =>
    simp only
    have hm : u.key ∉ r.bal.view.keys := Pool.find_none.mp (by rw [h.find_bal, hf])
    have hwt : (r.bal.upsert u w).weight u.key = some (Pool.newWeight w) := by
      unfold Bal.weight
      rw [Bal.upsert_view h.bal, Pool.weight_upsert h.bal.view, if_pos rfl, Pool.weight_none.mpr hm]
    rw [hwt]
    refine Reb.upsert_reset h now u w w ((Reb.shadow_eq_mk (List.map_append ..) (List.map_append ..)).trans ?_)
    exact (Pool.upsert_new (p := r.shadow) (by rw [Reb.shadow_keys, h.keys]; exact hm) w).symm

theorem Reb.upsert_newReady (r : Reb) (now : Nat) (u : URL) (w : Option Nat) :
    (r.upsert now u w).newReady = r.newReady := rfl

/-- an add allocates one object in the balancer; nothing in `UpsertServer` frees one -/
theorem Reb.upsert_heap_le (r : Reb) (now : Nat) (u : URL) (w : Option Nat) :
    r.bal.heap.length ≤ (r.upsert now u w).bal.heap.length := by
  unfold Reb.upsert
  exact Nat.le_trans (Bal.upsert_heap_le r.bal u _) (applyWeights_heap_le _ _)

/-- a successful `RemoveServer` through the rebalancer is `next.RemoveServer`, the record at the position of
    the key deleted, then `reset()` on records that are again in step with the balancer -/
theorem Reb.remove_eq {r r' : Reb} (h : r.Inv) {now : Nat} {u : URL} (hr : r.remove now u = some r') :
    ∃ i b1, r.find u.key = some i ∧ r.bal.remove u = some b1 ∧
      (r.servers.eraseIdx i).map Rec.key = b1.view.keys ∧
      r' = ({ r with bal := b1, servers := r.servers.eraseIdx i } : Reb).reset now := by
  unfold Reb.remove at hr
  cases hf : r.find u.key with
  | none => rw [hf] at hr; cases hr
  | some i =>
    rw [hf] at hr
    simp only at hr
    have hfb : r.bal.view.find u.key = some i := by rw [h.find_bal]; exact hf
    cases hb : r.bal.remove u with
    | none => rw [hb] at hr; cases hr
    | some b1 =>
      rw [hb] at hr
      -- the balancer erases at the position where it finds the key, which is the rebalancer's
      obtain ⟨j, hj, e⟩ := Bal.remove_some hb
      cases hj.symm.trans hfb
      have hk : (r.servers.eraseIdx i).map Rec.key = b1.view.keys := by
        rw [e, ← List.eraseIdx_map, h.keys, Bal.view_keys, Bal.urls, List.eraseIdx_map, List.eraseIdx_map]; rfl
      exact ⟨i, b1, rfl, rfl, hk, (Option.some.inj hr).symm⟩

/-- `RemoveServer` through the rebalancer -/
theorem Reb.remove_spec {r r' : Reb} (h : r.Inv) {now : Nat} {u : URL} (hr : r.remove now u = some r') :
    r'.Restored now r.backoff ∧ r.shadow.remove u.key = some r'.shadow := by
  obtain ⟨i, b1, hf, hb, hk, rfl⟩ := Reb.remove_eq h hr
  obtain ⟨hrestored, hshadow⟩ :=
    Reb.reset_spec (r := { r with bal := b1, servers := r.servers.eraseIdx i }) (Bal.remove_wf h.bal hb) hk now
  refine ⟨hrestored, ?_⟩
  rw [hshadow]
  unfold Pool.remove
  rw [← Reb.find_eq, hf]
  exact congrArg some (Reb.shadow_eq_mk (List.eraseIdx_map ..).symm (List.eraseIdx_map ..).symm).symm

theorem Reb.remove_heap {r r' : Reb} (h : r.Inv) {now : Nat} {u : URL} (hr : r.remove now u = some r') :
    r'.bal.heap = r.bal.heap := by
  obtain ⟨i, b1, _, hb, hk, rfl⟩ := Reb.remove_eq h hr
  exact (Reb.reset_heap (r := { r with bal := b1, servers := r.servers.eraseIdx i }) hk now).trans (Bal.remove_heap hb)

theorem Reb.remove_newReady {r r' : Reb} (h : r.Inv) {now : Nat} {u : URL} (hr : r.remove now u = some r') :
    r'.newReady = r.newReady := by
  obtain ⟨i, b1, _, _, _, rfl⟩ := Reb.remove_eq h hr
  rfl

theorem Reb.remove_none {r : Reb} (h : r.Inv) (now : Nat) (u : URL) :
    r.remove now u = none ↔ u.key ∉ r.bal.view.keys := by
  rw [← Pool.find_none, h.find_bal]
  unfold Reb.remove
  cases hf : r.find u.key with
  | none => simp
  | some i =>
    simp only
    have hfb : r.bal.view.find u.key = some i := by rw [h.find_bal]; exact hf
    have : r.bal.remove u ≠ none := by
      rw [Ne, Bal.remove_none, ← Pool.find_none, hfb]; simp
    cases hb : r.bal.remove u with
    | none => exact absurd hb this
    | some b => simp

theorem Reb.modify_meter_spec {r : Reb} (h : r.Inv) (i : Nat) (f : Rec → Rec)
    (hf : ∀ s, (f s).url = s.url ∧ (f s).orig = s.orig ∧ (f s).cur = s.cur) :
    ({ r with servers := r.servers.modify i f } : Reb).Inv ∧
    ({ r with servers := r.servers.modify i f } : Reb).shadow = r.shadow := by
  have hk : (r.servers.modify i f).map Rec.key = r.servers.map Rec.key :=
    map_modify_same Rec.key f (fun a => by unfold Rec.key; rw [(hf a).1]) _ _
  have ho : (r.servers.modify i f).map (·.orig) = r.servers.map (·.orig) :=
    map_modify_same (fun s : Rec => s.orig) f (fun a => (hf a).2.1) _ _
  have hc : (r.servers.modify i f).map (·.cur) = r.servers.map (·.cur) :=
    map_modify_same (fun s : Rec => s.cur) f (fun a => (hf a).2.2) _ _
  have hsw : SameWeights r.servers (r.servers.modify i f) :=
    (map_modify_same (fun p : Rec => (p.orig, p.cur)) f (fun a => by rw [(hf a).2.1, (hf a).2.2]) _ _).symm
  refine ⟨⟨h.bal, hk.trans h.keys, hc.trans h.ws, hsw.bounded h.bounded, hsw.pos h.pos⟩, ?_⟩
  exact Reb.shadow_congr hk ho

theorem Reb.marks_length (r : Reb) : r.marks.1.length = r.servers.length := by
  simp [Reb.marks, markServers]

theorem Reb.zip_marks_fst (r : Reb) : (r.servers.zip r.marks.1).map (·.1) = r.servers := by
  apply List.map_fst_zip
  rw [Reb.marks_length]

theorem Reb.newWeights_spec {r : Reb} (h : r.Inv) :
    r.newWeights.1.map Rec.rest = r.servers.map Rec.rest ∧
    (∀ p ∈ r.newWeights.1, Bounded fsmMaxWeight p) ∧ (∀ p ∈ r.newWeights.1, Pos p) := by
  unfold Reb.newWeights
  simp only
  split
  · refine ⟨?_, ?_, ?_⟩
    · rw [setMarked_rest]
      have := congrArg (List.map Rec.rest) (Reb.zip_marks_fst r)
      rw [List.map_map] at this
      exact this
    · apply setMarked_bounded
      intro q hq
      exact h.bounded _ (List.of_mem_zip hq).1
    · apply setMarked_pos
      intro q hq
      exact h.pos _ (List.of_mem_zip hq).1
  · refine ⟨converge_rest _, ?_, converge_pos _⟩
    intro q hq
    exact (converge_bounded 1024 _ h.bounded q hq).mono (by decide : 1024 ≤ fsmMaxWeight)

theorem Reb.newWeights_unchanged {r : Reb} (h : r.newWeights.2 = false) : r.newWeights.1 = r.servers := by
  unfold Reb.newWeights at h ⊢
  simp only at h ⊢
  split at h
  · rename_i hm; rw [if_pos hm, setMarked_unchanged h, Reb.zip_marks_fst]
  · rename_i hm; rw [if_neg hm, converge_unchanged h]

/-- the guards of `adjustWeights()` that are passed before the weights are looked at -/
abbrev Reb.due (r : Reb) (now : Nat) : Prop :=
  2 ≤ r.servers.length ∧ r.metricsReady = true ∧ r.timer < (now : Int)

theorem Reb.adjust_eq (r : Reb) (now : Nat) :
    r.adjust now = if r.due now ∧ r.newWeights.2 = true then
      { r with servers := r.newWeights.1, bal := Reb.applyWeights r.bal r.newWeights.1,
               timer := (now : Int) + r.backoff }
    else r := by
  unfold Reb.adjust Reb.due Reb.timerExpired
  by_cases h1 : r.servers.length < 2
  · rw [if_pos h1, if_neg (by omega)]
  · by_cases h2 : r.metricsReady = true
    · by_cases h3 : r.timer < (now : Int)
      · by_cases h4 : r.newWeights.2 = true
        · simp [h1, h2, h3, h4]
        · simp [h1, h2, h3, h4]
      · simp [h1, h2, h3]
    · simp [h1, h2]

/-- no test of `changed`: when nothing changes the new weights are the old records -/
theorem Reb.adjust_servers (r : Reb) (now : Nat) :
    (r.adjust now).servers = if r.due now then r.newWeights.1 else r.servers := by
  rw [Reb.adjust_eq]
  by_cases hd : r.due now
  · by_cases hc : r.newWeights.2 = true
    · rw [if_pos ⟨hd, hc⟩, if_pos hd]
    · rw [if_neg (fun h => hc h.2), if_pos hd, Reb.newWeights_unchanged (by simpa using hc)]
  · rw [if_neg (fun h => hd h.1), if_neg hd]

theorem Reb.adjust_servers_bal (r : Reb) (b : Bal) (now : Nat) :
    (({ r with bal := b } : Reb).adjust now).servers = (r.adjust now).servers := by
  rw [Reb.adjust_servers, Reb.adjust_servers]; rfl

/-- what `adjustWeights()` leaves of `r`, whether or not it changes a weight; `rest`: the records differ
    in `cur` only; `timer`: the old one or armed at `now + backoff` -/
structure Reb.Adjusted (r r' : Reb) (now : Nat) : Prop where
  inv : r'.Inv
  rest : r'.servers.map Rec.rest = r.servers.map Rec.rest
  urls : r'.bal.urls = r.bal.urls
  backoff : r'.backoff = r.backoff
  timer : r'.timer = r.timer ∨ r'.timer = (now : Int) + r.backoff

/-- `adjustWeights()` -/
theorem Reb.adjust_spec {r : Reb} (h : r.Inv) (now : Nat) : r.Adjusted (r.adjust now) now := by
  rw [Reb.adjust_eq]
  split
  · obtain ⟨hrest, hbounded, hpos⟩ := Reb.newWeights_spec h
    have hk := (keys_of_rest hrest).trans h.keys
    obtain ⟨hwf, hkeys, hws, hurls⟩ := applyWeights_spec h.bal r.newWeights.1 hk
    exact ⟨⟨hwf, hk.trans hkeys.symm, hws.symm, hbounded, hpos⟩, hrest, hurls, rfl, Or.inr rfl⟩
  · exact ⟨h, rfl, rfl, rfl, Or.inl rfl⟩

/-! What `adjustWeights()` leaves alone besides: the references, the heap, the meter factory's flag. -/

theorem Reb.adjust_refs {r : Reb} (h : r.Inv) (now : Nat) : (r.adjust now).bal.refs = r.bal.refs := by
  rw [Reb.adjust_eq]
  split
  · have hk := (keys_of_rest (Reb.newWeights_spec h).1).trans h.keys
    exact applyWeights_refs _ _ (mem_keys_of_map_eq hk)
  · rfl

theorem Reb.adjust_heap {r : Reb} (h : r.Inv) (now : Nat) : (r.adjust now).bal.heap = r.bal.heap := by
  rw [Reb.adjust_eq]
  split
  · have hk := (keys_of_rest (Reb.newWeights_spec h).1).trans h.keys
    exact applyWeights_heap _ _ (mem_keys_of_map_eq hk)
  · rfl

theorem Reb.adjust_newReady (r : Reb) (now : Nat) : (r.adjust now).newReady = r.newReady := by
  rw [Reb.adjust_eq]
  split <;> rfl

end RB
