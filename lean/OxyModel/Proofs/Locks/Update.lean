import OxyModel.Proofs.Locks.Basic

/-! C09: no update is lost when every write is the store half of a read-modify-write that stays inside
one critical section of the variable's lock.  The memory semantics (`vstep`) has no discipline built in;
the discipline is the hypotheses `Guarded` and `AtomicUpdates`. -/
namespace Locks

theorem vrun_append (v : Nat) : ∀ (a b : List Ev) (s : VS), vrun v s (a ++ b) = vrun v (vrun v s a) b := by
  intro a
  induction a with
  | nil => intro b s; rfl
  | cons e a ih => intro b s; simp only [List.cons_append, vrun]; exact ih b _

theorem writesTo_cons (v : Nat) (e : Ev) (es : List Ev) :
    writesTo v (e :: es) = writesTo v es + if e.isWriteTo v then 1 else 0 := by
  simp only [writesTo, ← List.countP_eq_length_filter, List.countP_cons]

theorem eq_acc_of_isWriteTo {v : Nat} {e : Ev} (h : e.isWriteTo v = true) : ∃ t, e = .acc t v true :=
  match e, h with
  | .acc t _ true, h => ⟨t, by rw [beq_iff_eq.1 h]⟩

theorem vstep_not_write {v : Nat} {s : VS} {e : Ev} (h : e.isWriteTo v = false) : (vstep v s e).mem = s.mem := by
  cases e with
  | acq t l w => rfl
  | rel t l w => rfl
  | acc t v' w =>
    cases w with
    | false => simp only [vstep]; split <;> rfl
    | true =>
      simp only [Ev.isWriteTo, beq_eq_false_iff_ne, ne_eq] at h
      simp only [vstep, if_neg h]

/-- the value machine alone: if every store finds the storing thread's register equal to the memory,
    the memory counts the stores -/
theorem vrun_count (v : Nat) (es : List Ev) (s : VS)
    (H : ∀ pre t post, es = pre ++ Ev.acc t v true :: post → (vrun v s pre).reg t = some (vrun v s pre).mem) :
    (vrun v s es).mem = s.mem + writesTo v es := by
  induction es generalizing s with
  | nil => rfl
  | cons e es ih =>
    rw [vrun, ih (vstep v s e) fun pre t post h => H (e :: pre) t post (by rw [h]; rfl),
      writesTo_cons, Nat.add_comm (writesTo v es), ← Nat.add_assoc]
    congr 1
    cases hwr : e.isWriteTo v with
    | false => exact vstep_not_write hwr
    | true =>
      obtain ⟨t, rfl⟩ := eq_acc_of_isWriteTo hwr
      have hr : s.reg t = some s.mem := H [] t es rfl
      simp only [vstep, if_true, hr, Option.getD_some]

/-- inside a critical section: while `t` keeps `ℓ` exclusively and everybody obeys the discipline, nobody
    else touches `v`, so the memory stays as it is and `t`'s register stays equal to it -/
theorem hold_section (ℓ v t : Nat) : ∀ (mid : List Ev) (σ σ' : St) (s : VS),
    run σ mid = some σ' → Inv σ → holdsW σ t ℓ →
    (∀ m, Ev.rel t ℓ m ∉ mid) → Ev.acc t v true ∉ mid →
    (∀ (a b : List Ev) (t' : Nat) (w : Bool) (σa : St), mid = a ++ Ev.acc t' v w :: b → run σ a = some σa → holdsFor σa t' ℓ w) →
    s.reg t = some s.mem →
    (vrun v s mid).reg t = some (vrun v s mid).mem ∧ (vrun v s mid).mem = s.mem := by
  intro mid
  induction mid with
  | nil => intro σ σ' s _ _ _ _ _ _ hr; exact ⟨hr, rfl⟩
  | cons e mid ih =>
    intro σ σ' s hrun hi hw hnr hns hg hr
    obtain ⟨σ1, h1, h2⟩ := run_cons_inv hrun
    have hw1 : holdsW σ1 t ℓ :=
      Classical.byContradiction fun hn => hnr true ((step_at h1 ℓ).lose_w hw hn ▸ List.mem_cons_self)
    have hstep : (vstep v s e).reg t = some (vstep v s e).mem ∧ (vstep v s e).mem = s.mem := by
      cases e with
      | acq t' l w => exact ⟨hr, rfl⟩
      | rel t' l w => exact ⟨hr, rfl⟩
      | acc t' v' w =>
        by_cases hv : v' = v
        · subst hv
          obtain rfl : t' = t := writer_alone hi hw (hg [] mid t' w σ rfl rfl).any
          cases w with
          | true => exact absurd List.mem_cons_self hns
          | false => simp [vstep, setReg_same]
        · cases w <;> simp only [vstep, if_neg hv] <;> exact ⟨hr, trivial⟩
    have hrest := ih σ1 σ' (vstep v s e) h2 (step_inv h1 hi) hw1 (fun m hm => hnr m (List.mem_cons_of_mem _ hm))
      (fun hm => hns (List.mem_cons_of_mem _ hm))
      (fun a b t' w σa hab hra => hg (e :: a) b t' w σa (by simp [hab]) (by simp only [run, h1]; exact hra)) hstep.1
    exact ⟨hrest.1, hrest.2.trans hstep.2⟩

theorem store_fresh {ℓ v : Nat} {es : List Ev} (hwf : WellFormed es) (hg : Guarded ℓ v es)
    (ha : AtomicUpdates ℓ v es) {pre post : List Ev} {t : Nat} (he : es = pre ++ Ev.acc t v true :: post) :
    (vrun v VS.init pre).reg t = some (vrun v VS.init pre).mem := by
  obtain ⟨p1, mid, σ, hpre, hp1, hw, hnr, hns⟩ := ha pre post t he
  obtain ⟨σf, hrun⟩ := hwf
  have hes : es = p1 ++ (Ev.acc t v false :: (mid ++ Ev.acc t v true :: post)) := by
    rw [he, hpre, List.append_assoc]; rfl
  rw [hes] at hrun
  obtain ⟨σ', hp1', hrest⟩ := run_split hrun
  obtain rfl : σ = σ' := Option.some.inj (hp1.symm.trans hp1')
  -- a load leaves the lock state as it is: by computation `hrest` (which starts with the load) is a run of
  -- `mid ++ …` from `σ`, and the run of the load alone (`rfl` below) ends in `σ`
  obtain ⟨σm, hmid, _⟩ := run_split (a := mid) hrest
  have hload : run St.init (p1 ++ [Ev.acc t v false]) = some σ := run_join hp1 rfl
  rw [hpre, vrun_append]
  exact (hold_section ℓ v t mid σ σm (vstep v (vrun v VS.init p1) (Ev.acc t v false)) hmid (run_inv hp1 inv_init)
    hw hnr hns
    (fun a b t' w σa hab hra => hg (p1 ++ Ev.acc t v false :: a) (b ++ Ev.acc t v true :: post) t' w σa
      (by rw [hes, hab]; simp) (List.append_cons p1 _ a ▸ run_join hload hra))
    (by simp [vstep, setReg_same])).1

end Locks
