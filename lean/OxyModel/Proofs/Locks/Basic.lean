import OxyModel.Model.Locks

/-! Lock executions seen from one lock: what a step does to it (`LStep`), the invariant that a writer excludes
readers, and which event makes a thread start or stop holding it (`gain`, `lose`).  First the two equations of
`setReg`, the register file of the counter machine (`Counter.lean`) and of the value machine (`Update.lean`). -/
namespace Locks

theorem setReg_same (r : Nat → Option Nat) (t : Nat) (x : Option Nat) : setReg r t x t = x := if_pos rfl

theorem setReg_other (r : Nat → Option Nat) {t k : Nat} (x : Option Nat) (h : k ≠ t) : setReg r t x k = r k := if_neg h

theorem run_append {σ : St} {a b : List Ev} :
    run σ (a ++ b) = (run σ a).bind (fun σ' => run σ' b) := by
  induction a generalizing σ with
  | nil => simp [run]
  | cons e a ih =>
    simp only [List.cons_append, run]
    cases step σ e with
    | none => simp
    | some σ' => exact ih

theorem run_split {σ σf : St} {a b : List Ev} (h : run σ (a ++ b) = some σf) :
    ∃ σm, run σ a = some σm ∧ run σm b = some σf := by
  rw [run_append] at h
  cases h1 : run σ a with
  | none => simp [h1] at h
  | some σm => rw [h1] at h; exact ⟨σm, rfl, by simpa using h⟩

theorem run_join {σ σm σf : St} {a b : List Ev} (h1 : run σ a = some σm) (h2 : run σm b = some σf) :
    run σ (a ++ b) = some σf := by
  rw [run_append, h1]; simpa using h2

theorem run_cons_inv {σ σf : St} {e : Ev} {es : List Ev} (h : run σ (e :: es) = some σf) :
    ∃ σ1, step σ e = some σ1 ∧ run σ1 es = some σf := by
  simp only [run] at h
  cases hs : step σ e with
  | none => simp [hs] at h
  | some σ1 => rw [hs] at h; exact ⟨σ1, rfl, h⟩

/-- what one step does to the state of the fixed lock `ℓ` -/
inductive LStep (ℓ : Nat) : LS → Ev → LS → Prop
  | same {s : LS} {e : Ev} : (∀ t m, e ≠ .acq t ℓ m) → (∀ t m, e ≠ .rel t ℓ m) → LStep ℓ s e s
  | acqW {s : LS} {t : Nat} : s.writer = none → s.readers = [] → LStep ℓ s (.acq t ℓ true) { s with writer := some t }
  | acqR {s : LS} {t : Nat} : s.writer = none → LStep ℓ s (.acq t ℓ false) { s with readers := t :: s.readers }
  | relW {s : LS} {t : Nat} : s.writer = some t → LStep ℓ s (.rel t ℓ true) { s with writer := none }
  | relR {s : LS} {t : Nat} : t ∈ s.readers → LStep ℓ s (.rel t ℓ false) { s with readers := s.readers.erase t }

theorem upd_same (σ : St) (ℓ : Nat) (s : LS) : upd σ ℓ s ℓ = s := by simp [upd]
theorem upd_other (σ : St) {ℓ k : Nat} (s : LS) (h : k ≠ ℓ) : upd σ ℓ s k = σ k := by simp [upd, h]

/-- a step that puts `s'` at lock `ℓ'` looks, from any other lock `ℓ`, like no step: `hne` says that the event
    is then no operation on `ℓ` -/
theorem LStep.at_upd {ℓ ℓ' : Nat} {σ : St} {e : Ev} {s' : LS} (hs : LStep ℓ' (σ ℓ') e s')
    (hne : ℓ ≠ ℓ' → (∀ t m, e ≠ .acq t ℓ m) ∧ (∀ t m, e ≠ .rel t ℓ m)) : LStep ℓ (σ ℓ) e (upd σ ℓ' s' ℓ) := by
  by_cases h : ℓ = ℓ'
  · subst h; rwa [upd_same]
  · rw [upd_other _ _ h]; exact .same (hne h).1 (hne h).2

theorem step_at {σ σ' : St} {e : Ev} (h : step σ e = some σ') (ℓ : Nat) : LStep ℓ (σ ℓ) e (σ' ℓ) := by
  cases e with
  | acc t v w => cases h; exact .same nofun nofun
  | acq t ℓ' w =>
    have hne : ℓ ≠ ℓ' → (∀ t' m, Ev.acq t ℓ' w ≠ .acq t' ℓ m) ∧ (∀ t' m, Ev.acq t ℓ' w ≠ .rel t' ℓ m) :=
      fun hne => ⟨fun _ _ he => hne (Ev.acq.inj he).2.1.symm, nofun⟩
    cases w with
    | true =>
      obtain ⟨hc, hσ⟩ := Option.ite_none_right_eq_some.1 h
      cases hσ; exact .at_upd (.acqW hc.1 hc.2) hne
    | false =>
      obtain ⟨hc, hσ⟩ := Option.ite_none_right_eq_some.1 h
      cases hσ; exact .at_upd (.acqR hc) hne
  | rel t ℓ' w =>
    have hne : ℓ ≠ ℓ' → (∀ t' m, Ev.rel t ℓ' w ≠ .acq t' ℓ m) ∧ (∀ t' m, Ev.rel t ℓ' w ≠ .rel t' ℓ m) :=
      fun hne => ⟨nofun, fun _ _ he => hne (Ev.rel.inj he).2.1.symm⟩
    cases w with
    | true =>
      obtain ⟨hc, hσ⟩ := Option.ite_none_right_eq_some.1 h
      cases hσ; exact .at_upd (.relW hc) hne
    | false =>
      obtain ⟨hc, hσ⟩ := Option.ite_none_right_eq_some.1 h
      cases hσ; exact .at_upd (.relR hc) hne

/-- a writer excludes readers -/
def Inv (σ : St) : Prop := ∀ ℓ, (σ ℓ).writer ≠ none → (σ ℓ).readers = []

theorem inv_init : Inv St.init := by intro ℓ h; rfl

theorem LStep.inv {ℓ : Nat} {s s' : LS} {e : Ev} (h : LStep ℓ s e s') (hi : s.writer ≠ none → s.readers = []) :
    s'.writer ≠ none → s'.readers = [] := by
  cases h with
  | same _ _ => exact hi
  | acqW h1 h2 => intro _; exact h2
  | acqR h1 => intro hw; exact absurd h1 hw
  | relW h1 => intro hw; exact absurd rfl hw
  | relR h1 => intro hw; simp [hi hw]

theorem step_inv {σ σ' : St} {e : Ev} (h : step σ e = some σ') (hi : Inv σ) : Inv σ' :=
  fun ℓ => (step_at h ℓ).inv (hi ℓ)

theorem run_inv : ∀ {es : List Ev} {σ σ' : St}, run σ es = some σ' → Inv σ → Inv σ' := by
  intro es
  induction es with
  | nil => intro σ σ' h hi; simp only [run, Option.some.injEq] at h; subst h; exact hi
  | cons e es ih =>
    intro σ σ' h hi
    obtain ⟨σ1, h1, h2⟩ := run_cons_inv h
    exact ih h2 (step_inv h1 hi)

theorem first_flip (P : St → Prop) : ∀ (es : List Ev) (σ σ' : St), run σ es = some σ' → P σ → ¬ P σ' →
    ∃ (a : List Ev) (e : Ev) (b : List Ev) (σa σb : St), es = a ++ e :: b ∧ run σ a = some σa ∧
      step σa e = some σb ∧ P σa ∧ ¬ P σb ∧ run σb b = some σ' := by
  intro es
  induction es with
  | nil => intro σ σ' h hp hn; simp only [run, Option.some.injEq] at h; subst h; exact absurd hp hn
  | cons e es ih =>
    intro σ σ' h hp hn
    obtain ⟨σ1, h1, h2⟩ := run_cons_inv h
    by_cases hp1 : P σ1
    · obtain ⟨a, e', b, σa, σb, e1, e2, e3, e4, e5, e6⟩ := ih σ1 σ' h2 hp1 hn
      refine ⟨e :: a, e', b, σa, σb, by simp [e1], ?_, e3, e4, e5, e6⟩
      simp only [run, h1]; exact e2
    · exact ⟨[], e, es, σ, σ1, by simp, by simp [run], h1, hp, hp1, h2⟩

/-! A thread's writer slot changes only by its own exclusive acquire/release, its reader entry only by its own
shared acquire/release. -/

theorem LStep.lose_w {ℓ t : Nat} {s s' : LS} {e : Ev} (h : LStep ℓ s e s')
    (h1 : s.writer = some t) (h2 : ¬ s'.writer = some t) : e = .rel t ℓ true := by
  cases h with
  | same _ _ => exact absurd h1 h2
  | acqW hw hr => rw [hw] at h1; cases h1
  | acqR hw => exact absurd h1 h2
  | relW hw => rw [hw] at h1; cases h1; rfl
  | relR hr => exact absurd h1 h2

theorem LStep.lose_r {ℓ t : Nat} {s s' : LS} {e : Ev} (h : LStep ℓ s e s')
    (h1 : t ∈ s.readers) (h2 : t ∉ s'.readers) : e = .rel t ℓ false := by
  cases h with
  | same _ _ => exact absurd h1 h2
  | acqW hw hr => exact absurd h1 h2
  | acqR hw => exact absurd (List.mem_cons_of_mem _ h1) h2
  | relW hw => exact absurd h1 h2
  | @relR t' hr =>
    by_cases ht : t = t'
    · rw [ht]
    · exact absurd ((List.mem_erase_of_ne ht).2 h1) h2

theorem LStep.gain_w {ℓ t : Nat} {s s' : LS} {e : Ev} (h : LStep ℓ s e s')
    (h1 : ¬ s.writer = some t) (h2 : s'.writer = some t) : e = .acq t ℓ true := by
  cases h with
  | same _ _ => exact absurd h2 h1
  | acqW hw hr => cases h2; rfl
  | acqR hw => exact absurd h2 h1
  | relW hw => cases h2
  | relR hr => exact absurd h2 h1

theorem LStep.gain_r {ℓ t : Nat} {s s' : LS} {e : Ev} (h : LStep ℓ s e s')
    (h1 : t ∉ s.readers) (h2 : t ∈ s'.readers) : e = .acq t ℓ false := by
  cases h with
  | same _ _ => exact absurd h2 h1
  | acqW hw hr => exact absurd h2 h1
  | acqR hw =>
    rcases List.mem_cons.1 h2 with ht | h2
    · rw [ht]
    · exact absurd h2 h1
  | relW hw => exact absurd h2 h1
  | relR hr => exact absurd (List.mem_of_mem_erase h2) h1

theorem holdsFor_weaken {σ : St} {t ℓ : Nat} {m w : Bool} (h : holdsFor σ t ℓ m) (hm : w = true → m = true) :
    holdsFor σ t ℓ w := by
  cases w with
  | true => rwa [hm rfl] at h
  | false => cases m with
    | true => exact Or.inl h
    | false => exact h

theorem holdsFor.any {σ : St} {t ℓ : Nat} {m : Bool} (h : holdsFor σ t ℓ m) : holdsAny σ t ℓ :=
  holdsFor_weaken (w := false) h nofun

theorem lose {σa σb : St} {e : Ev} {t ℓ : Nat} {m : Bool} (hs : step σa e = some σb)
    (h1 : holdsFor σa t ℓ m) (h2 : ¬ holdsFor σb t ℓ m) : ∃ m', e = .rel t ℓ m' ∧ (m = true → m' = true) := by
  cases m with
  | true => exact ⟨true, (step_at hs ℓ).lose_w h1 h2, fun _ => rfl⟩
  | false =>
    rcases h1 with h1 | h1
    · exact ⟨true, (step_at hs ℓ).lose_w h1 fun h => h2 (.inl h), nofun⟩
    · exact ⟨false, (step_at hs ℓ).lose_r h1 fun h => h2 (.inr h), nofun⟩

theorem gain {σa σb : St} {e : Ev} {t ℓ : Nat} {m : Bool} (hs : step σa e = some σb)
    (h1 : ¬ holdsFor σa t ℓ m) (h2 : holdsFor σb t ℓ m) : ∃ m', e = .acq t ℓ m' ∧ (m = true → m' = true) := by
  cases m with
  | true => exact ⟨true, (step_at hs ℓ).gain_w h1 h2, fun _ => rfl⟩
  | false =>
    rcases h2 with h2 | h2
    · exact ⟨true, (step_at hs ℓ).gain_w (fun h => h1 (.inl h)) h2, nofun⟩
    · exact ⟨false, (step_at hs ℓ).gain_r (fun h => h1 (.inr h)) h2, nofun⟩

theorem writer_alone {σ : St} (hi : Inv σ) {t t' ℓ : Nat} (hw : holdsW σ t ℓ) (ha : holdsAny σ t' ℓ) : t' = t := by
  unfold holdsW at hw
  rcases ha with h | h
  · exact Option.some.inj ((h.symm.trans hw))
  · have hr : (σ ℓ).readers = [] := hi ℓ (by rw [hw]; nofun)
    rw [holdsR, hr] at h; cases h

end Locks
