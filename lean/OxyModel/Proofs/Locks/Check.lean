import OxyModel.Proofs.Locks.Basic

/-! C09: soundness of the Boolean discipline checker, and "conforms to disciplined facts ⇒ guarded". -/
namespace Locks

theorem holds_sound {f : Fact} {ℓ : Nat} (h : f.holds ℓ = true) :
    ∃ m, (ℓ, m) ∈ f.locks ∧ (f.write = true → m = true) := by
  simp only [Fact.holds, List.any_eq_true, Bool.and_eq_true, Nat.beq_eq, Bool.or_eq_true,
    Bool.not_eq_true', Prod.exists] at h
  obtain ⟨l, m, hp, rfl, hm⟩ := h
  exact ⟨m, hp, fun hw => by simpa [hw] using hm⟩

theorem minOf_mem {l : List Nat} {x : Nat} (h : minOf l = some x) : x ∈ l := by
  cases l with
  | nil => cases h
  | cons y ys => exact List.min?_mem (List.min?_cons'.trans h)  -- `minOf` is `List.min?` written out

theorem groupLock_sound {g : List Fact} {ℓ : Nat} (h : groupLock g = some ℓ) : ∀ f ∈ g, f.holds ℓ = true := by
  cases g with
  | nil => cases h
  | cons f0 fs => exact List.all_eq_true.1 (List.mem_filter.1 (minOf_mem h)).2

theorem disciplinedBy_of_groupLock {fs g : List Fact} {v ℓ : Nat} (h : groupLock g = some ℓ)
    (hg : ∀ f ∈ fs, f.var = v → f ∈ g) : DisciplinedBy fs v ℓ :=
  fun f hf hv => holds_sound (groupLock_sound h f (hg f hf hv))

theorem checkVar_sound {fs : List Fact} {v ℓ : Nat} (h : checkVar fs v = some ℓ) : DisciplinedBy fs v ℓ :=
  disciplinedBy_of_groupLock h fun f hf hv => List.mem_filter.2 ⟨hf, by rw [hv]; exact Nat.beq_refl v⟩

theorem checkGroups_spec {gs : List (List Fact)} {i : Nat} (h : checkGroups i gs = true) {k : Nat} {g : List Fact}
    (hk : gs[k]? = some g) : (∀ f ∈ g, f.var = i + k) ∧ (groupLock g).isSome = true := by
  induction gs generalizing i k with
  | nil => cases hk
  | cons g0 gs ih =>
    simp only [checkGroups, Bool.and_eq_true, List.all_eq_true, Nat.beq_eq] at h
    cases k with
    | zero => cases hk; exact ⟨h.1.1, h.1.2⟩
    | succ k => rw [← Nat.add_assoc, Nat.add_right_comm]; exact ih h.2 hk

theorem mem_group {gs : List (List Fact)} (h : checkGroups 0 gs = true) {f : Fact} (hf : f ∈ gs.flatten) :
    f ∈ gs[f.var]?.getD [] := by
  obtain ⟨g, hg, hfg⟩ := List.mem_flatten.1 hf
  obtain ⟨k, hk⟩ := List.getElem?_of_mem hg
  rw [(checkGroups_spec h hk).1 f hfg, Nat.zero_add, hk]
  exact hfg

/-- the kernel-evaluated check implies the discipline for every variable of the grouped table -/
theorem checkGroups_sound {gs : List (List Fact)} (h : checkGroups 0 gs = true) (v : Nat) : Disciplined gs.flatten v := by
  cases hv : gs[v]? with
  | none => exact ⟨0, fun f hf hfv => by have := mem_group h hf; simp [hfv, hv] at this⟩
  | some g =>
    obtain ⟨ℓ, hℓ⟩ := Option.isSome_iff_exists.1 (checkGroups_spec h hv).2
    exact ⟨ℓ, disciplinedBy_of_groupLock hℓ fun f hf hfv => by simpa [hfv, hv] using mem_group h hf⟩

/-- an execution over lock/variable instances (several objects of one class, stacks) that behaves as the facts
    say is guarded by the instance of the lock that disciplines the facts -/
theorem conformsI_guarded {fs : List Fact} {es : List Ev} {vcls obj : Nat → Nat} {lockOf : Nat → Nat → Nat} {v c : Nat}
    (hc : ConformsI fs vcls obj lockOf es) (hd : DisciplinedBy fs (vcls v) c) : Guarded (lockOf (obj v) c) v es := by
  intro pre post t w σ he hr
  obtain ⟨f, hf, hv, hw, hl⟩ := hc pre post t v w σ he hr
  obtain ⟨m, hm, hmw⟩ := hd f hf hv
  exact holdsFor_weaken (hl (c, m) hm) (hw ▸ hmw)

theorem Conforms.conformsI {fs : List Fact} {es : List Ev} (hc : Conforms fs es) :
    ConformsI fs id (fun _ => 0) (fun _ c => c) es := hc

theorem isCounterB_sound {fs : List Fact} {v : Nat} (h : isCounterB fs v = true) : IsCounter fs v := by
  intro f hf hv hw
  have := List.all_eq_true.1 h f hf
  rw [hv, hw] at this
  simpa using this

theorem noSplitB_sound {fs : List Fact} (h : noSplitB fs = true) : ∀ f ∈ fs, f.kind ≠ 3 := by
  intro f hf hk
  simpa [hk] using List.all_eq_true.1 h f hf

theorem isCounter_of_group {gs : List (List Fact)} (h : checkGroups 0 gs = true) {v : Nat}
    (hc : isCounterB (gs[v]?.getD []) v = true) : IsCounter gs.flatten v :=
  fun f hf hv => isCounterB_sound hc f (hv ▸ mem_group h hf) hv

theorem updatesAtomic_of {fs : List Fact} {v ℓ : Nat} (hd : DisciplinedBy fs v ℓ) (hc : IsCounter fs v) :
    UpdatesAtomicBy fs v ℓ := by
  intro f hf hv hw
  obtain ⟨m, hm, hmw⟩ := hd f hf hv
  exact ⟨hc f hf hv hw, hmw hw ▸ hm⟩

/-- executions that behave as the facts say at their update sites keep every update of a counter variable
    inside one critical section of its lock -/
theorem conformsU_atomic {fs : List Fact} {es : List Ev} {v ℓ : Nat} (hwf : WellFormed es)
    (hu : ConformsU fs es) (ha : UpdatesAtomicBy fs v ℓ) : AtomicUpdates ℓ v es := by
  intro pre post t he
  obtain ⟨σf, hrun⟩ := hwf
  obtain ⟨σ, hpre, _⟩ := run_split (he ▸ hrun)
  obtain ⟨f, hf, hv, hw, hk⟩ := hu pre post t v σ he hpre
  obtain ⟨hk1, hl⟩ := ha f hf hv hw
  obtain ⟨p1, mid, σ1, e1, e2, e3, e4, e5⟩ := hk hk1
  exact ⟨p1, mid, σ1, e1, e2, e3 (ℓ, true) hl, e4 (ℓ, true) hl, e5⟩

end Locks
