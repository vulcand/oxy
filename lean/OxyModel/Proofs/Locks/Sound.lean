import OxyModel.Proofs.Locks.Basic

/-! C09: the lockset discipline orders conflicting accesses (release by the first thread, later
acquire by the second), hence no race w.r.t. happens-before. -/
namespace Locks

/-- core of `C09_lockset_sound`: `t1` holds `ℓ` in mode `w1` at its access, `t2` in mode `w2` at its own, and the
    two modes conflict.  So in between `t1` stops holding `ℓ` in mode `w1` — the first step after which it does not
    is a release covering `w1` — and after that `t2` starts holding it in mode `w2` — by an acquisition covering `w2`. -/
theorem lockset_sound_split (pre mid post : List Ev) (t1 t2 v ℓ : Nat) (w1 w2 : Bool)
    (hwf : WellFormed (pre ++ Ev.acc t1 v w1 :: (mid ++ Ev.acc t2 v w2 :: post)))
    (hg : Guarded ℓ v (pre ++ Ev.acc t1 v w1 :: (mid ++ Ev.acc t2 v w2 :: post)))
    (hne : t1 ≠ t2) (hc : w1 = true ∨ w2 = true) :
    ∃ (a b c : List Ev) (m1 m2 : Bool),
      mid = a ++ Ev.rel t1 ℓ m1 :: (b ++ Ev.acq t2 ℓ m2 :: c) ∧ (m1 = true ∨ m2 = true) := by
  obtain ⟨σf, h⟩ := hwf
  obtain ⟨σ2, h1, h⟩ := run_split h
  obtain ⟨σ3, hmid, _⟩ := run_split (a := mid) h
  have g1 : holdsFor σ2 t1 ℓ w1 := hg pre (mid ++ Ev.acc t2 v w2 :: post) t1 w1 σ2 rfl h1
  have g2 : holdsFor σ3 t2 ℓ w2 :=
    hg (pre ++ Ev.acc t1 v w1 :: mid) post t2 w2 σ3 (by rw [List.append_assoc]; rfl) (run_join h1 hmid)
  have hi2 : Inv σ2 := run_inv h1 inv_init
  have conflict {σ : St} (hi : Inv σ) (x1 : holdsFor σ t1 ℓ w1) (x2 : holdsFor σ t2 ℓ w2) : False := by
    rcases hc with rfl | rfl
    · exact hne (writer_alone hi x1 x2.any).symm
    · exact hne (writer_alone hi x2 x1.any)
  obtain ⟨a, e, b, σa, σb, rfl, ra, sa, pa, pb, rb⟩ :=
    first_flip (fun σ => holdsFor σ t1 ℓ w1) mid σ2 σ3 hmid g1 fun x1 => conflict (run_inv hmid hi2) x1 g2
  obtain ⟨m1, rfl, hm1⟩ := lose sa pa pb
  have hn2 : ¬ holdsFor σb t2 ℓ w2 := fun x2 => by
    obtain ⟨_, he, _⟩ := gain sa (conflict (run_inv ra hi2) pa) x2
    cases he
  obtain ⟨a', e', b', σa', σb', rfl, _, sa', pa', pb', _⟩ :=
    first_flip (fun σ => ¬ holdsFor σ t2 ℓ w2) b σb σ3 rb hn2 fun hh => hh g2
  obtain ⟨m2, rfl, hm2⟩ := gain sa' pa' (Classical.not_not.mp pb')
  exact ⟨a, a', b', m1, m2, rfl, hc.imp hm1 hm2⟩

/-! In `p ++ x :: l` the event `x` sits at `p.length` and `l[n]` at `p.length + (n + 1)`: written this way,
positions reached through nested decompositions are literally the sums `List.length_append` / `length_cons` produce. -/

theorem getElem?_mid {α : Type} (p : List α) (x : α) (l : List α) : (p ++ x :: l)[p.length]? = some x := by
  rw [List.getElem?_append_right (Nat.le_refl _), Nat.sub_self, List.getElem?_cons_zero]

theorem getElem?_skip {α : Type} (p : List α) (x : α) (l : List α) (n : Nat) :
    (p ++ x :: l)[p.length + (n + 1)]? = l[n]? := by
  rw [List.getElem?_append_right (Nat.le_add_right _ _), Nat.add_sub_cancel_left, List.getElem?_cons_succ]

theorem split_at {α : Type} {es : List α} {i : Nat} {e : α} (h : es[i]? = some e) :
    ∃ pre post, es = pre ++ e :: post ∧ pre.length = i := by
  obtain ⟨hi, rfl⟩ := List.getElem?_eq_some_iff.1 h
  exact ⟨es.take i, es.drop (i + 1), by rw [List.getElem_cons_drop, List.take_append_drop],
    List.length_take_of_le (Nat.le_of_lt hi)⟩

theorem split_two {α : Type} {es : List α} {i j : Nat} {x y : α} (hij : i < j) (hi : es[i]? = some x)
    (hj : es[j]? = some y) :
    ∃ pre mid post, es = pre ++ x :: (mid ++ y :: post) ∧ i = pre.length ∧ j = pre.length + (mid.length + 1) := by
  obtain ⟨l, post, rfl, rfl⟩ := split_at hj
  rw [List.getElem?_append_left hij] at hi
  obtain ⟨pre, mid, rfl, rfl⟩ := split_at hi
  exact ⟨pre, mid, post, by rw [List.append_assoc]; rfl, rfl, by rw [List.length_append, List.length_cons]⟩

/-- access, release by its thread, acquisition of that lock, access by the acquiring thread: program order,
    synchronisation, program order -/
theorem hb_chain (p a b c q : List Ev) {t1 t2 v ℓ : Nat} {w1 w2 m1 m2 : Bool} (hm : m1 = true ∨ m2 = true) :
    HB (p ++ Ev.acc t1 v w1 :: (a ++ Ev.rel t1 ℓ m1 :: (b ++ Ev.acq t2 ℓ m2 :: c) ++ Ev.acc t2 v w2 :: q))
      p.length (p.length + ((a ++ Ev.rel t1 ℓ m1 :: (b ++ Ev.acq t2 ℓ m2 :: c)).length + 1)) := by
  simp only [List.length_append, List.length_cons, List.append_assoc, List.cons_append]
  -- where the four events sit
  have at_acc1 := getElem?_mid p (Ev.acc t1 v w1)
    (a ++ Ev.rel t1 ℓ m1 :: (b ++ Ev.acq t2 ℓ m2 :: (c ++ Ev.acc t2 v w2 :: q)))
  have at_rel := (getElem?_skip p (Ev.acc t1 v w1) _ a.length).trans
    (getElem?_mid a (Ev.rel t1 ℓ m1) (b ++ Ev.acq t2 ℓ m2 :: (c ++ Ev.acc t2 v w2 :: q)))
  have at_acq := (getElem?_skip p (Ev.acc t1 v w1) _ _).trans ((getElem?_skip a (Ev.rel t1 ℓ m1) _ b.length).trans
    (getElem?_mid b (Ev.acq t2 ℓ m2) (c ++ Ev.acc t2 v w2 :: q)))
  have at_acc2 := (getElem?_skip p (Ev.acc t1 v w1) _ _).trans ((getElem?_skip a (Ev.rel t1 ℓ m1) _ _).trans
    ((getElem?_skip b (Ev.acq t2 ℓ m2) _ c.length).trans (getElem?_mid c (Ev.acc t2 v w2) q)))
  have acc1_rel := HB.po (by omega) at_acc1 at_rel rfl
  have rel_acq := HB.sw (by omega) at_rel at_acq hm
  have acq_acc2 := HB.po (by omega) at_acq at_acc2 rfl
  exact acc1_rel.trans (rel_acq.trans acq_acc2)

theorem HB.lt {es : List Ev} {i j : Nat} (h : HB es i j) : i < j := by
  induction h with
  | po h _ _ _ => exact h
  | sw h _ _ _ => exact h
  | trans _ _ ih1 ih2 => omega

/-- two neighbouring positions are ordered only by program order or because the first is an unlock -/
theorem HB.adjacent {es : List Ev} {i j : Nat} (h : HB es i j) : j = i + 1 →
    ∃ a b, es[i]? = some a ∧ es[j]? = some b ∧ (a.thread = b.thread ∨ ∃ t ℓ m, a = Ev.rel t ℓ m) := by
  induction h with
  | po _ h1 h2 ht => intro _; exact ⟨_, _, h1, h2, Or.inl ht⟩
  | sw _ h1 h2 _ => intro _; exact ⟨_, _, h1, h2, Or.inr ⟨_, _, _, rfl⟩⟩
  | trans h1 h2 _ _ => intro hj; have := h1.lt; have := h2.lt; omega

end Locks
