import OxyModel.Proofs.Locks.Basic

/-! Executable companions of `WellFormed`, `Guarded` and `Conforms`: Boolean walks over an execution whose
verdict `true` implies the predicate (used for the non-vacuity examples). -/
namespace Locks

theorem wf_of_isSome {es : List Ev} (h : (run St.init es).isSome = true) : WellFormed es := by
  cases hr : run St.init es with
  | none => rw [hr] at h; cases h
  | some σ => exact ⟨σ, hr⟩

/-- a Boolean walk `chk` that tests `Q` on the head event and goes on from the next state has tested `Q`
    at every event of the execution, in the state the run reaches before it -/
theorem walk_sound {Q : St → Ev → Prop} {chk : St → List Ev → Bool}
    (hchk : ∀ σ e es, chk σ (e :: es) = true → Q σ e ∧ ∀ σ', step σ e = some σ' → chk σ' es = true) :
    ∀ (es : List Ev) (σ0 : St), chk σ0 es = true →
      ∀ (pre : List Ev) (e : Ev) (post : List Ev) (σ : St), es = pre ++ e :: post → run σ0 pre = some σ → Q σ e := by
  intro es
  induction es with
  | nil => intro σ0 _ pre e post σ he _; simp at he
  | cons x es ih =>
    intro σ0 hc pre e post σ he hr
    cases pre with
    | nil => cases he; cases hr; exact (hchk _ _ _ hc).1
    | cons y pre' =>
      cases he
      obtain ⟨σ1, h1, h2⟩ := run_cons_inv hr
      exact ih σ1 ((hchk _ _ _ hc).2 σ1 h1) pre' e post σ rfl h2

def holdsForB (σ : St) (t ℓ : Nat) (w : Bool) : Bool :=
  if w then (σ ℓ).writer == some t else ((σ ℓ).writer == some t || (σ ℓ).readers.contains t)

theorem holdsForB_sound {σ : St} {t ℓ : Nat} {w : Bool} (h : holdsForB σ t ℓ w = true) : holdsFor σ t ℓ w := by
  unfold holdsForB at h
  unfold holdsFor holdsAny holdsW holdsR
  cases w with
  | true => simpa using h
  | false => simpa using h

/-- walk the execution and test every access to `v` -/
def guardedFrom (ℓ v : Nat) : St → List Ev → Bool
  | _, [] => true
  | σ, e :: es =>
    (match e with
      | .acc t v' w => v' != v || holdsForB σ t ℓ w
      | _ => true) &&
    (match step σ e with
      | none => true
      | some σ' => guardedFrom ℓ v σ' es)

theorem guarded_of_check {ℓ v : Nat} {es : List Ev} (h : guardedFrom ℓ v St.init es = true) : Guarded ℓ v es := by
  -- what `guardedFrom` tests at the head event, and that it goes on from the next state
  have hhead : ∀ σ e es, guardedFrom ℓ v σ (e :: es) = true →
      (∀ t w, e = .acc t v w → holdsFor σ t ℓ w) ∧ ∀ σ', step σ e = some σ' → guardedFrom ℓ v σ' es = true := by
    intro σ e es hc
    simp only [guardedFrom, Bool.and_eq_true] at hc
    exact ⟨by rintro t w rfl; exact holdsForB_sound (by simpa using hc.1), fun σ' hs => by simpa [hs] using hc.2⟩
  have hall := walk_sound hhead es St.init h
  intro pre post t w σ he hr
  exact hall pre (.acc t v w) post σ he hr t w rfl

def holdsModeB (σ : St) (t : Nat) (p : Nat × Bool) : Bool :=
  if p.2 then (σ p.1).writer == some t else ((σ p.1).writer == some t || (σ p.1).readers.contains t)

theorem holdsModeB_eq (σ : St) (t : Nat) (p : Nat × Bool) : holdsModeB σ t p = holdsForB σ t p.1 p.2 := rfl

theorem holdsModeB_sound {σ : St} {t : Nat} {p : Nat × Bool} (h : holdsModeB σ t p = true) :
    if p.2 then holdsW σ t p.1 else holdsAny σ t p.1 :=
  holdsForB_sound ((holdsModeB_eq σ t p).symm.trans h)

/-- walk the execution and match every access against the fact table -/
def conformsFrom (fs : List Fact) : St → List Ev → Bool
  | _, [] => true
  | σ, e :: es =>
    (match e with
      | .acc t v w => fs.any fun f => Nat.beq f.var v && (f.write == w) && f.locks.all (holdsModeB σ t)
      | _ => true) &&
    (match step σ e with
      | none => true
      | some σ' => conformsFrom fs σ' es)

theorem conforms_of_check {fs : List Fact} {es : List Ev} (h : conformsFrom fs St.init es = true) : Conforms fs es := by
  -- what `conformsFrom` tests at the head event, and that it goes on from the next state
  have hhead : ∀ σ e es, conformsFrom fs σ (e :: es) = true →
      (∀ t v w, e = .acc t v w →
        ∃ f ∈ fs, f.var = v ∧ f.write = w ∧ ∀ p ∈ f.locks, if p.2 then holdsW σ t p.1 else holdsAny σ t p.1) ∧
      ∀ σ', step σ e = some σ' → conformsFrom fs σ' es = true := by
    intro σ e es hc
    simp only [conformsFrom, Bool.and_eq_true] at hc
    refine ⟨?_, fun σ' hs => by simpa [hs] using hc.2⟩
    rintro t v w rfl
    have h1 := hc.1
    simp only [List.any_eq_true, Bool.and_eq_true, beq_iff_eq, List.all_eq_true, Nat.beq_eq] at h1
    obtain ⟨f, hf, ⟨hv, hw⟩, hl⟩ := h1
    exact ⟨f, hf, hv, hw, fun p hp => holdsModeB_sound (hl p hp)⟩
  have hall := walk_sound hhead es St.init h
  intro pre post t v w σ he hr
  exact hall pre (.acc t v w) post σ he hr t v w rfl

end Locks
