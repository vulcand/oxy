import OxyModel.Proofs.Locks.Basic

/-! C09: increments performed under the exclusive lock are never lost. -/
namespace Locks

/-- a pending increment belongs to the lock holder and has loaded the current value -/
def CInv (s : CS) : Prop := ∀ t x, s.reg t = some x → s.writer = some t ∧ x = s.mem

theorem cinv_init : CInv CS.init := by intro t x h; simp [CS.init] at h

theorem cstep_inv {s s' : CS} {e : CEv} (h : cstep true s e = some s') (hi : CInv s) :
    CInv s' ∧ s'.mem = s.mem + (if e.isStore then 1 else 0) := by
  cases e with
  | acqW t =>
    obtain ⟨hc, hs⟩ := Option.ite_none_right_eq_some.1 h
    cases hs
    refine ⟨fun t' x hr => ?_, rfl⟩
    -- the lock was free, so no increment was pending
    have := (hi t' x hr).1
    rw [hc] at this; cases this
  | relW t =>
    obtain ⟨hc, hs⟩ := Option.ite_none_right_eq_some.1 h
    cases hs
    refine ⟨fun t' x hr => ?_, rfl⟩
    -- a pending increment would be the releasing thread's, and that one has none
    obtain rfl : t = t' := Option.some.inj (hc.1.symm.trans (hi t' x hr).1)
    have : s.reg t = some x := hr
    rw [hc.2 rfl] at this; cases this
  | ld t =>
    obtain ⟨hc, hs⟩ := Option.ite_none_right_eq_some.1 h
    cases hs
    refine ⟨fun t' x hr => ?_, rfl⟩
    by_cases ht : t' = t
    · subst ht
      cases (setReg_same s.reg t' (some s.mem)).symm.trans hr
      exact ⟨hc.1 rfl, rfl⟩
    · exact hi t' x ((setReg_other s.reg _ ht).symm.trans hr)
  | st t =>
    cases hx : s.reg t with
    | none => simp only [cstep, hx] at h; cases h
    | some x =>
      simp only [cstep, hx] at h
      obtain ⟨hc, hs⟩ := Option.ite_none_right_eq_some.1 h
      cases hs
      obtain ⟨hw, rfl⟩ := hi t x hx
      refine ⟨fun t' y hr => ?_, rfl⟩
      -- the storing thread is the holder; its increment is done, and nobody else had one pending
      by_cases ht : t' = t
      · subst ht
        cases (setReg_same s.reg t' none).symm.trans hr
      · have h1 := (hi t' y ((setReg_other s.reg _ ht).symm.trans hr)).1
        exact absurd (Option.some.inj (h1.symm.trans hw)) ht

theorem increments_cons (e : CEv) (es : List CEv) :
    increments (e :: es) = increments es + if e.isStore then 1 else 0 := by
  simp only [increments, ← List.countP_eq_length_filter, List.countP_cons]

theorem crun_count : ∀ (es : List CEv) (s s' : CS), crun true s es = some s' → CInv s →
    s'.mem = s.mem + increments es := by
  intro es
  induction es with
  | nil => intro s s' h _; cases h; rfl
  | cons e es ih =>
    intro s s' h hi
    simp only [crun] at h
    cases hs : cstep true s e with
    | none => simp [hs] at h
    | some s1 =>
      rw [hs] at h
      obtain ⟨hi1, hm1⟩ := cstep_inv hs hi
      rw [ih s1 s' h hi1, hm1, increments_cons, Nat.add_assoc, Nat.add_comm (increments es)]

theorem crun_inv : ∀ (es : List CEv) (s s' : CS), crun true s es = some s' → CInv s → CInv s' := by
  intro es
  induction es with
  | nil => intro s s' h hi; cases h; exact hi
  | cons e es ih =>
    intro s s' h hi
    simp only [crun] at h
    cases hs : cstep true s e with
    | none => simp [hs] at h
    | some s1 => rw [hs] at h; exact ih s1 s' h (cstep_inv hs hi).1

end Locks
