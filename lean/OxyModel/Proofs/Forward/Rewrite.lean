import OxyModel.Proofs.Forward.Tokens
/-! `HeaderRewriter.Rewrite`: each statement of the Go function as one equation about `lookup`, and from these
what the whole function leaves under every name (`lookup_rewrite`). -/
namespace Fwd
open FwdURL

theorem lookup_rwTrust (t : Bool) (h : Hdr) (k : String) :
    (rwTrust t h).lookup k = if t = false ∧ k ∈ XHeaders then none else h.lookup k := by
  cases t <;> simp [rwTrust, lookup_delAll]

theorem rwTrust_true (h : Hdr) : rwTrust true h = h := rfl

theorem lookup_rwProto (t : Bool) (h : Hdr) (k : String) :
    (rwProto t h).lookup k =
      if k = XForwardedProto ∧ get h XForwardedProto = "" then some [if t then "https" else "http"] else h.lookup k :=
  lookup_ite_set ..

theorem lookup_rwPort (a : String) (t : Bool) (h : Hdr) (k : String) :
    (rwPort a t h).lookup k =
      if k = XForwardedPort ∧ get h XForwardedPort = "" then some [forwardedPort a h t] else h.lookup k :=
  lookup_ite_set ..

theorem lookup_rwHost (a : String) (h : Hdr) (k : String) :
    (rwHost a h).lookup k =
      if k = XForwardedHost ∧ get h XForwardedHost = "" ∧ a ≠ "" then some [a] else h.lookup k := by
  rw [rwHost, lookup_ite_set]; simp only [Bool.and_eq_true, decide_eq_true_eq]

theorem lookup_rwServer (a : String) (h : Hdr) (k : String) :
    (rwServer a h).lookup k = if k = XForwardedServer ∧ a ≠ "" then some [a] else h.lookup k :=
  lookup_ite_set ..

/-- `¬ k = _`, not `k ≠ _`: `simp` then discharges the hypothesis for a literal `k` by comparing characters -/
theorem lookup_rwRealIP (a : String) (h : Hdr) (k : String) (hk : ¬ k = XRealIP) :
    (rwRealIP a h).lookup k = h.lookup k := by
  unfold rwRealIP
  cases splitHostPort a with
  | none => rfl
  | some p => dsimp only; split <;> simp [lookup_set, hk]

theorem vals_rwRealIP (a : String) (h : Hdr) :
    vals (rwRealIP a h) XRealIP =
      match splitHostPort a with
      | some (ip, _) => if get h XRealIP = "" then [ipv6fix ip] else vals h XRealIP
      | none => vals h XRealIP := by
  unfold rwRealIP
  cases splitHostPort a with
  | none => rfl
  | some p => dsimp only; split <;> simp [vals_set]

theorem lookup_rewrite_other (c : Cfg) (r : Req) (k : String) (hk : k ∉ XHeaders) :
    (rewrite c r).lookup k = r.header.lookup k := by
  have hk' := hk
  simp only [XHeaders, List.mem_cons, List.not_mem_nil, or_false, not_or] at hk'
  simp only [rewrite, lookup_rwServer, lookup_rwHost, lookup_rwPort, lookup_rwProto, lookup_rwRealIP _ _ _ hk'.2.2.2.2.2,
    lookup_rwTrust, hk, hk', false_and, and_false, if_false]

theorem forwardedPort_eq (host : String) (h : Hdr) (tls : Bool) :
    forwardedPort host h tls = portFor host (get h XForwardedProto) tls := by
  unfold forwardedPort portFor; rfl

/-- What a trusting `Rewrite` leaves under every name, in terms of the incoming request; the X-Real-Ip block, which
writes no name the later blocks read or write, stays as it is (`vals_rwRealIP`, `lookup_rwRealIP`). At a literal name,
comparing the names leaves the block that answers. -/
theorem lookup_rewrite (c : Cfg) (r : Req) (ht : c.trust = true) (k : String) :
    (rewrite c r).lookup k =
      if k = XForwardedServer ∧ c.hostname ≠ "" then some [c.hostname]
      else if k = XForwardedHost ∧ get r.header XForwardedHost = "" ∧ r.host ≠ "" then some [r.host]
      else if k = XForwardedPort ∧ get r.header XForwardedPort = "" then some [portFor r.host (effProto r) r.tls]
      else if k = XForwardedProto ∧ get r.header XForwardedProto = "" then some [if r.tls then "https" else "http"]
      else (rwRealIP r.remoteAddr r.header).lookup k := by
  -- a block's read of a header that no earlier block writes is a read of the incoming map
  have rd : ∀ (h : Hdr) (k' : String), h.lookup k' = r.header.lookup k' → get h k' = get r.header k' :=
    fun h k' e => by rw [get_eq_lookup, e, ← get_eq_lookup]
  have hostRead : get (rwPort r.host r.tls (rwProto r.tls (rwRealIP r.remoteAddr r.header))) XForwardedHost
      = get r.header XForwardedHost := rd _ _ <| by
    simp only [lookup_rwPort, lookup_rwProto, lookup_rwRealIP, hdr_names, String.reduceEq, false_and, if_false,
      not_false_eq_true]
  have portRead : get (rwProto r.tls (rwRealIP r.remoteAddr r.header)) XForwardedPort = get r.header XForwardedPort :=
    rd _ _ <| by
      simp only [lookup_rwProto, lookup_rwRealIP, hdr_names, String.reduceEq, false_and, if_false, not_false_eq_true]
  have protoRead : get (rwRealIP r.remoteAddr r.header) XForwardedProto = get r.header XForwardedProto :=
    rd _ _ (lookup_rwRealIP _ _ _ (by simp [hdr_names]))
  -- the one dependency between blocks: the port block reads the Proto just written
  have ep : get (rwProto r.tls (rwRealIP r.remoteAddr r.header)) XForwardedProto = effProto r := by
    rw [get_eq_lookup, lookup_rwProto, protoRead, effProto]
    by_cases h : get r.header XForwardedProto = ""
    · simp [h]
    · rw [if_neg (fun a => h a.2), if_neg h, ← get_eq_lookup, protoRead]
  rw [rewrite, ht, rwTrust_true, lookup_rwServer, lookup_rwHost, lookup_rwPort, lookup_rwProto, forwardedPort_eq, ep,
    hostRead, portRead, protoRead]

/-- the same in values -/
theorem vals_rewrite (c : Cfg) (r : Req) (ht : c.trust = true) (k : String) :
    vals (rewrite c r) k =
      if k = XForwardedServer ∧ c.hostname ≠ "" then [c.hostname]
      else if k = XForwardedHost ∧ get r.header XForwardedHost = "" ∧ r.host ≠ "" then [r.host]
      else if k = XForwardedPort ∧ get r.header XForwardedPort = "" then [portFor r.host (effProto r) r.tls]
      else if k = XForwardedProto ∧ get r.header XForwardedProto = "" then [if r.tls then "https" else "http"]
      else vals (rwRealIP r.remoteAddr r.header) k := by
  rw [vals_eq_lookup, lookup_rewrite c r ht k]
  simp only [apply_ite (Option.getD · []), Option.getD_some, vals_eq_lookup]

end Fwd
