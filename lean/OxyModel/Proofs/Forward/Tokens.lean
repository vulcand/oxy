import OxyModel.Proofs.Forward.Hdr
/-! `protectForwardingHeaders` removes exactly the forwarding-header names from the Connection tokens. -/
namespace Fwd

theorem splitComma_ne_nil (s : List Char) : splitComma s ≠ [] := by
  induction s with
  | nil => simp [splitComma]
  | cons c r ih =>
    simp only [splitComma]
    split
    · simp
    · split <;> simp

theorem splitComma_nocomma (x : List Char) (hx : ',' ∉ x) : splitComma x = [x] := by
  induction x with
  | nil => simp [splitComma]
  | cons c r ih =>
    have hc : c ≠ ',' := fun h => hx (by simp [h])
    have hr : ',' ∉ r := fun h => hx (by simp [h])
    simp [splitComma, ih hr, hc]

theorem splitComma_append (x s : List Char) (hx : ',' ∉ x) :
    splitComma (x ++ ',' :: s) = x :: splitComma s := by
  induction x with
  | nil =>
    simp only [List.nil_append, splitComma]
    split
    · next h => exact absurd h (splitComma_ne_nil s)
    · next y ys h => simp [h]
  | cons c r ih =>
    have hc : c ≠ ',' := fun h => hx (by simp [h])
    have hr : ',' ∉ r := fun h => hx (by simp [h])
    simp [splitComma, ih hr, hc]

theorem splitComma_mem_nocomma (s x : List Char) (h : x ∈ splitComma s) : ',' ∉ x := by
  induction s generalizing x with
  | nil => simp [splitComma] at h; simp [h]
  | cons c r ih =>
    simp only [splitComma] at h
    split at h
    · next hnil => exact absurd hnil (splitComma_ne_nil r)
    · next y ys hy =>
      have hy' : ∀ z ∈ y :: ys, ',' ∉ z := fun z hz => ih z (hy ▸ hz)
      split at h
      · rcases List.mem_cons.mp h with h | h
        · simp [h]
        · exact hy' x h
      · next hc =>
        rcases List.mem_cons.mp h with h | h
        · subst h
          -- a comma in `c :: y` is `c` or lies in `y`
          exact fun hm => (List.mem_cons.mp hm).elim (fun e => hc e.symm) (hy' y (by simp))
        · exact hy' x (by simp [h])

theorem splitComma_joinComma (kept : List (List Char)) (hne : kept ≠ []) (hk : ∀ x ∈ kept, ',' ∉ x) :
    splitComma (joinComma kept) = kept := by
  induction kept with
  | nil => exact absurd rfl hne
  | cons x r ih =>
    cases r with
    | nil => simpa [joinComma] using splitComma_nocomma x (hk x (by simp))
    | cons y r' =>
      simp only [joinComma]
      rw [splitComma_append x _ (hk x (by simp)), ih (by simp) (fun z hz => hk z (by simp [hz]))]

/-- `keepTok` looks at an element only through its token -/
theorem map_tok_filter_keepTok (l : List (List Char)) :
    (l.filter keepTok).map tok = (l.map tok).filter (fun s => !XHeaders.contains (canonKey s)) := by
  simp only [List.filter_map, Function.comp_def]; rfl

theorem tokens_protectLine (f : String) :
    tokens ((protectLine f).toList) = (tokens [f]).filter (fun s => !XHeaders.contains (canonKey s)) := by
  have comm : ∀ l : List (List Char),
      ((l.map tok).filter (· ≠ "")).filter (fun s => !XHeaders.contains (canonKey s))
        = ((l.filter keepTok).map tok).filter (· ≠ "") := fun l => by
    rw [map_tok_filter_keepTok, List.filter_filter, List.filter_filter]
    simp only [Bool.and_comm]
  simp only [protectLine]
  split
  · next hnil =>
    simp only [Option.toList, tokens, List.flatMap_nil, List.filter_nil, List.flatMap_cons, List.append_nil]
    rw [comm, hnil]; simp
  · next hne =>
    simp only [Option.toList, tokens, List.flatMap_cons, List.flatMap_nil, List.append_nil, String.toList_ofList]
    rw [comm, splitComma_joinComma _ hne]
    intro x hx
    exact splitComma_mem_nocomma _ x (List.mem_filter.mp hx).1

theorem tokens_append (a b : List String) : tokens (a ++ b) = tokens a ++ tokens b := by
  simp [tokens]

theorem tokens_filterMap_protect (vs : List String) :
    tokens (vs.filterMap protectLine) = (tokens vs).filter (fun s => !XHeaders.contains (canonKey s)) := by
  induction vs with
  | nil => simp [tokens]
  | cons f t ih =>
    have h1 : (f :: t).filterMap protectLine = (protectLine f).toList ++ t.filterMap protectLine := by
      simp only [List.filterMap_cons]; cases protectLine f <;> simp
    have h2 : f :: t = [f] ++ t := rfl
    rw [h1, tokens_append, ih, tokens_protectLine, h2, tokens_append, List.filter_append]

theorem lookup_protect_other (h : Hdr) (k : String) (hk : k ≠ Connection) :
    (protectForwardingHeaders h).lookup k = h.lookup k := by
  simp only [protectForwardingHeaders]
  split
  · rfl
  · split
    · simp [lookup_del, hk]
    · have : (k == Connection) = false := by simpa using hk
      simp [List.lookup_cons, this, lookup_del, hk]

theorem vals_protect_connection (h : Hdr) :
    vals (protectForwardingHeaders h) Connection = (vals h Connection).filterMap protectLine := by
  simp only [protectForwardingHeaders]
  split
  · next hh =>
    have : h.lookup Connection = none := by
      simp only [has, Bool.not_eq_true', Option.isSome_eq_false_iff, Option.isNone_iff_eq_none] at hh; exact hh
    simp [vals, this]
  · split
    · next hnil => rw [hnil]; simp [vals_del]
    · simp [vals]

/-- **what `protectForwardingHeaders` achieves**: the Connection tokens afterwards are the ones before minus
the forwarding-header names (compared after canonicalisation), in order. -/
theorem tokens_protect (h : Hdr) :
    tokens (vals (protectForwardingHeaders h) Connection)
      = (tokens (vals h Connection)).filter (fun s => !XHeaders.contains (canonKey s)) := by
  rw [vals_protect_connection, tokens_filterMap_protect]

end Fwd
