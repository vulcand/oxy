import OxyModel.Proofs.Forward.Rewrite
/-! The outgoing header map stage by stage — Director, hop-by-hop removal, the stdlib's own additions, Transport —
each stage as one equation about `lookup`; then what `serve c r = some w` says about `w`, and the relayed response. -/
namespace Fwd
open FwdURL

theorem lookup_removeHopByHop (h : Hdr) (k : String) :
    (removeHopByHop h).lookup k = if k ∈ hopHeaders ∨ k ∈ named h then none else h.lookup k := by
  simp only [removeHopByHop, lookup_delAll, named]
  by_cases h1 : k ∈ hopHeaders <;> by_cases h2 : k ∈ (tokens (vals h Connection)).map canonKey <;> simp [h1, h2]

theorem modifyRequest_header (r : Req) : (modifyRequest r).header = r.header := rfl
theorem modifyRequest_host (r : Req) : (modifyRequest r).host = r.host := rfl
theorem modifyRequest_remoteAddr (r : Req) : (modifyRequest r).remoteAddr = r.remoteAddr := rfl
theorem modifyRequest_tls (r : Req) : (modifyRequest r).tls = r.tls := rfl

theorem modifyRequest_url_of_parse (r : Req) (u : URL) (hpu : parseRequestURI r.requestURI = some u) :
    (modifyRequest r).url =
      { r.url with path := u.path, rawPath := u.rawPath, rawQuery := u.rawQuery, forceQuery := u.forceQuery } := by
  have hne : r.requestURI ≠ [] := fun e => by
    rw [e, show parseRequestURI [] = none from rfl] at hpu; exact absurd hpu (by simp)
  simp only [modifyRequest, hne, ne_eq, not_false_eq_true, if_true, hpu, Option.getD_some]

/-- the rewriter reads the header map, Host, TLS and the peer address; `modifyRequest` changes none of them -/
theorem rewrite_modifyRequest (c : Cfg) (r : Req) : rewrite c (modifyRequest r) = rewrite c r := rfl

theorem director_eq (c : Cfg) (r : Req) :
    director c r = { modifyRequest r with
      header := protectForwardingHeaders (rewrite c (modifyRequest r))
      host := if c.passHostHeader then r.host else r.url.host } := by
  unfold director; cases c.passHostHeader <;> rfl

theorem director_header (c : Cfg) (r : Req) : (director c r).header = protectForwardingHeaders (rewrite c r) := by
  rw [director_eq, rewrite_modifyRequest]

theorem director_url (c : Cfg) (r : Req) : (director c r).url = (modifyRequest r).url := by
  rw [director_eq]

theorem tokens_director (c : Cfg) (r : Req) :
    tokens (vals (director c r).header Connection) =
      (tokens (vals r.header Connection)).filter (fun s => !XHeaders.contains (canonKey s)) := by
  have hc : Connection ∉ XHeaders := by
    simp [XHeaders, hdr_names]
  rw [director_header, tokens_protect, vals_eq_lookup, lookup_rewrite_other _ _ _ hc]; rfl

theorem named_director (c : Cfg) (r : Req) :
    named (director c r).header = (named r.header).filter (fun k => !XHeaders.contains k) := by
  simp only [named, tokens_director, List.filter_map]; rfl

/-- Connection itself is on the hop-by-hop list, so `protectForwardingHeaders` drops out -/
theorem lookup_removeHopByHop_director (c : Cfg) (r : Req) (k : String) :
    (removeHopByHop (director c r).header).lookup k =
      if k ∈ hopHeaders ∨ (k ∈ named r.header ∧ k ∉ XHeaders) then none else (rewrite c r).lookup k := by
  simp only [lookup_removeHopByHop, named_director, List.mem_filter, Bool.not_eq_true', List.contains_eq_mem,
    decide_eq_false_iff_not]
  split
  · rfl
  · next h =>
    have hc : k ≠ Connection := fun e => h (Or.inl (by simp [e, hopHeaders, Connection]))
    rw [director_header, lookup_protect_other _ _ hc]

theorem lookup_stTe (i h : Hdr) (k : String) :
    (stTe i h).lookup k = if k = "Te" ∧ containsToken (vals i "Te") "trailers" then some ["trailers"] else h.lookup k :=
  lookup_ite_set ..

theorem lookup_stUpgrade (u : String) (h : Hdr) (k : String) :
    (stUpgrade u h).lookup k =
      if k = "Upgrade" ∧ u ≠ "" then some [u] else if k = Connection ∧ u ≠ "" then some ["Upgrade"] else h.lookup k := by
  unfold stUpgrade; split <;> simp [lookup_set, *]

theorem lookup_stUserAgent (h : Hdr) (k : String) :
    (stUserAgent h).lookup k = if k = "User-Agent" ∧ h.lookup "User-Agent" = none then some [""] else h.lookup k := by
  rw [stUserAgent, lookup_ite_set]
  simp only [has, Bool.not_eq_true', Option.isSome_eq_false_iff, Option.isNone_iff_eq_none]

theorem get_stUserAgent (h : Hdr) : get (stUserAgent h) "User-Agent" = get h "User-Agent" := by
  rw [get_eq_lookup, lookup_stUserAgent]
  cases hl : h.lookup "User-Agent" <;> simp [get_eq_lookup, hl]

theorem lookup_appendXFF (a : String) (h : Hdr) (k : String) (hk : ¬ k = XForwardedFor) :
    (appendXFF a h).lookup k = h.lookup k := by
  unfold appendXFF
  cases splitHostPort a with
  | none => rfl
  | some p => simp [lookup_set, hk]

theorem vals_appendXFF (a : String) (h : Hdr) (ip port : String) (hpeer : splitHostPort a = some (ip, port)) :
    vals (appendXFF a h) XForwardedFor =
      [if vals h XForwardedFor ≠ [] then String.intercalate ", " (vals h XForwardedFor) ++ ", " ++ ip else ip] := by
  simp only [appendXFF, hpeer, vals_set, if_true]

theorem lookup_wireHeader (h : Hdr) (m : String) (n : Nat) (k : String) :
    (wireHeader h m n).lookup k =
      if k = "Content-Length" ∧ (n > 0 || m = "POST" || m = "PUT" || m = "PATCH") then some [toString n]
      else if k = "User-Agent" ∧ get h "User-Agent" ≠ "" then some [get h "User-Agent"]
      else if k ∈ transportManaged then none else h.lookup k := by
  simp only [wireHeader, lookup_ite_set, lookup_delAll]

/-- `appendXFF` reads nothing but X-Forwarded-For -/
theorem lookup_appendXFF_congr (a : String) (h h' : Hdr) (e : h'.lookup XForwardedFor = h.lookup XForwardedFor) :
    (appendXFF a h').lookup XForwardedFor = (appendXFF a h).lookup XForwardedFor := by
  unfold appendXFF
  cases splitHostPort a with
  | none => exact e
  | some p => simp only [lookup_set, vals_eq_lookup, e]; rfl

/-- What goes out under every name, read off the map that hop-by-hop removal left: the five stages the stdlib runs after
it, composed, with each stage's reads (the Transport's of User-Agent, `appendXFF`'s of X-Forwarded-For, the guard's)
traced back to that map. `hopless`: the map after hop-by-hop removal; `inbound`: the map the client sent; `upgrade`: the
upgrade type; `peer`: the client's address. At a literal name, comparing the names leaves the row that answers. -/
theorem lookup_stdlib_stages (inbound hopless : Hdr) (upgrade peer method : String) (bodyLen : Nat) (k : String) :
    (wireHeader (stUserAgent (appendXFF peer (stUpgrade upgrade (stTe inbound hopless)))) method bodyLen).lookup k =
      if k = "Content-Length" ∧ (bodyLen > 0 || method = "POST" || method = "PUT" || method = "PATCH") then
        some [toString bodyLen]
      else if k = "User-Agent" ∧ get hopless "User-Agent" ≠ "" then some [get hopless "User-Agent"]
      else if k ∈ transportManaged then none
      else if k = XForwardedFor then (appendXFF peer hopless).lookup XForwardedFor
      else if k = "Upgrade" ∧ upgrade ≠ "" then some [upgrade]
      else if k = Connection ∧ upgrade ≠ "" then some ["Upgrade"]
      else if k = "Te" ∧ containsToken (vals inbound "Te") "trailers" then some ["trailers"]
      else hopless.lookup k := by
  have ua : get (stUserAgent (appendXFF peer (stUpgrade upgrade (stTe inbound hopless)))) "User-Agent"
      = get hopless "User-Agent" := by
    rw [get_stUserAgent]
    simp only [get_eq_lookup, lookup_appendXFF, lookup_stUpgrade, lookup_stTe, hdr_names, String.reduceEq, false_and,
      if_false, not_false_eq_true]
  -- the first three rows are the Transport's
  rw [lookup_wireHeader, ua]
  refine ite_congr rfl (fun _ => rfl) fun _ => ite_congr rfl (fun _ => rfl) fun _ => ite_congr rfl (fun _ => rfl) fun hm => ?_
  -- a name the Transport does not manage is not User-Agent: the guard passes it
  rw [lookup_stUserAgent, if_neg fun e => hm (by simp [e.1, transportManaged])]
  by_cases hx : k = XForwardedFor
  · subst hx
    rw [if_pos rfl]
    exact lookup_appendXFF_congr _ _ _ (by
      simp only [lookup_stUpgrade, lookup_stTe, hdr_names, String.reduceEq, false_and, if_false])
  · rw [if_neg hx, lookup_appendXFF _ _ _ hx, lookup_stUpgrade, lookup_stTe]

theorem serve_some {c : Cfg} {r : Req} {w : Wire} (hw : serve c r = some w) :
    isPrint (upgradeType (director c r).header) = true ∧
    w = { target := requestURI (formStep r.formParsed (director c r).url)
          proto := outProto
          host := if (director c r).host ≠ "" then (director c r).host else (director c r).url.host
          backend := ((director c r).url.scheme, (director c r).url.host)
          header := wireHeader (outHeader c r) r.method r.bodyLen } := by
  simp only [serve] at hw
  split at hw
  · exact absurd hw (by simp)
  · next hp => cases hw; exact ⟨by simpa using hp, rfl⟩

theorem serve_header {c : Cfg} {r : Req} {w : Wire} (hw : serve c r = some w) :
    w.header = wireHeader (outHeader c r) r.method r.bodyLen := by
  rw [(serve_some hw).2]

theorem target_of_parse {c : Cfg} {r : Req} {w : Wire} (hw : serve c r = some w) (hform : r.formParsed = false)
    {u : URL} (hpu : parseRequestURI r.requestURI = some u) :
    w.target = requestURI
      { r.url with path := u.path, rawPath := u.rawPath, rawQuery := u.rawQuery, forceQuery := u.forceQuery } := by
  rw [(serve_some hw).2, director_url, modifyRequest_url_of_parse r u hpu, hform]; rfl

theorem lookup_serve (c : Cfg) (r : Req) (w : Wire) (hw : serve c r = some w) (k : String) (hk : k ∉ stdlibOwn) :
    w.header.lookup k =
      if k ∈ hopHeaders ∨ (k ∈ named r.header ∧ k ∉ XHeaders) then none else (rewrite c r).lookup k := by
  simp only [stdlibOwn, List.mem_cons, List.not_mem_nil, or_false, not_or] at hk
  obtain ⟨h1, h2, h3, h4, h5, h6, h7, h8, h9⟩ := hk
  rw [serve_header hw, outHeader, lookup_stdlib_stages, ← lookup_removeHopByHop_director]
  simp only [transportManaged, hdr_names, List.mem_cons, List.not_mem_nil, h1, h2, h3, h4, h5, h6, h7, h8, h9, false_and,
    or_self, if_false]

/-- The names listed by the backend's Connection header are not removed when it says `close`: the Transport deletes the
header before `ReverseProxy` reads it. -/
theorem lookup_relay (b : Resp) (k : String) :
    (relay b).header.lookup k =
      if k ∈ hopHeaders ∨ (containsToken (vals b.header Connection) "close" = false ∧ k ∈ named b.header) then none
      else b.header.lookup k := by
  simp only [relay, transportResp, lookup_removeHopByHop]
  by_cases hc : containsToken (vals b.header Connection) "close" = true
  · have hn : named (del b.header Connection) = [] := by simp [named, vals_del, tokens]
    by_cases hk : k = Connection
    · simp [hk, hopHeaders, Connection]
    · simp [hc, hn, lookup_del, hk]
  · simp [hc]

theorem lookup_relay_end_to_end (b : Resp) (k : String) (h1 : k ∉ hopHeaders) (h2 : k ∉ named b.header) :
    (relay b).header.lookup k = b.header.lookup k := by
  rw [lookup_relay, if_neg (by simp [h1, h2])]

theorem has_relay_hop (b : Resp) (k : String) (hk : k ∈ hopHeaders) : has (relay b).header k = false := by
  rw [has_eq_lookup, lookup_relay, if_pos (Or.inl hk)]; rfl

end Fwd
