import OxyModel.Model.Forward
/-! Vocabulary of the C08 statements: valid request targets (RFC 7230 §5.3 over RFC 3986), how a target is put together
from its parts, and the lists of header names the statements speak of. Definitions only. -/
namespace FwdURL

/-- RFC 3986 `pchar` without `%`: unreserved, sub-delims, `:` and `@` -/
def pchar (c : Char) : Bool := isAlnum c || "-._~!$&'()*+,;=:@".toList.contains c

/-- path bytes: `pchar` (without `%`), `/`, or a well-formed `%XY` triple -/
def validPathTail : Bytes → Bool
  | [] => true
  | c :: rest =>
    if c = '%' then
      match rest with
      | a :: b :: rest' => ishex a && ishex b && validPathTail rest'
      | _ => false
    else (pchar c || c = '/') && validPathTail rest

/-- `path-absolute`: starts with `/`, valid bytes after it -/
def validPath (p : Bytes) : Bool := p.head? = some '/' && validPathTail p

/-- query bytes: `pchar`, `/`, `?`, and `%` (Go does not inspect escapes in the query; a superset of the RFC) -/
def qchar (c : Char) : Bool := pchar c || c = '/' || c = '?' || c = '%'

/-- RFC 3986 `query`, with `%` free -/
def validQuery (q : Bytes) : Bool := q.all qchar

/-- the origin-form target `path[?query]` -/
def target (p : Bytes) (q : Option Bytes) : Bytes := p ++ (match q with | some q' => '?' :: q' | none => [])

/-- `[ "?" query ]` -/
def qstr : Option Bytes → Bytes
  | some q' => '?' :: q'
  | none => []

/-- ForceQuery / RawQuery for a target's query part -/
def qparts : Option Bytes → Bool × Bytes
  | none => (false, [])
  | some [] => (true, [])
  | some q' => (false, q')

/-- `scheme = ALPHA *( ALPHA / DIGIT / "+" / "-" / "." )` -/
def schemeChar (c : Char) : Bool := isAlpha c || isDigit c || c = '+' || c = '-' || c = '.'

/-- a letter, then scheme bytes -/
def validScheme : Bytes → Bool
  | [] => false
  | c :: r => isAlpha c && r.all schemeChar

/-- `scheme "://" authority path-abempty [ "?" query ]` -/
def absTarget (s a p : Bytes) (q : Option Bytes) : Bytes := s ++ ':' :: '/' :: '/' :: (a ++ target p q)

end FwdURL

namespace Fwd

/-- `forwardedPort` as a function of the effective X-Forwarded-Proto value -/
def portFor (host proto : String) (tls : Bool) : String :=
  match splitHostPort host with
  | some (_, port) =>
    if port ≠ "" then port
    else if proto = "https" || proto = "wss" then "443"
    else if tls then "443" else "80"
  | none =>
    if proto = "https" || proto = "wss" then "443"
    else if tls then "443" else "80"

/-- the X-Forwarded-Proto value the backend will see -/
def effProto (r : Req) : String :=
  if get r.header XForwardedProto = "" then (if r.tls then "https" else "http") else get r.header XForwardedProto

/-- names the stdlib writes itself after hop-by-hop removal (ReverseProxy) or on the wire (Transport) -/
def stdlibOwn : List String :=
  ["Te", "Connection", "Upgrade", "X-Forwarded-For", "User-Agent", "Content-Length", "Host", "Transfer-Encoding", "Trailer"]

/-- canonical names listed by the Connection header of `h` -/
def named (h : Hdr) : List String := (tokens (vals h Connection)).map canonKey

end Fwd
