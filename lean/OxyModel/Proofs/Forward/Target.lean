import OxyModel.Proofs.Forward.Spec
/-! `net/url` round trip of valid request targets, origin-form and absolute-form: `url.parse` hands `setPath` the
path and the query parts, `RequestURI()` prints them back byte for byte. -/
namespace FwdURL

theorem char_le_iff (a b : Char) : a ≤ b ↔ a.toNat ≤ b.toNat := by
  rw [Char.le_def, UInt32.le_iff_toNat_le]; rfl

theorem isAlnum_eq (c : Char) : isAlnum c = (isAlpha c || isDigit c) := rfl

theorem ishex_isAlnum (c : Char) (h : ishex c = true) : isAlnum c = true := by
  simp only [ishex, isAlnum, Bool.or_eq_true, Bool.and_eq_true, decide_eq_true_eq] at h ⊢
  -- `0-9` is a range of both; `a-f` lies in `a-z`, `A-F` in `A-Z`
  rcases h with (h | h) | h
  · exact .inr h
  · exact .inl (.inl ⟨h.1, Char.le_trans h.2 (by decide)⟩)
  · exact .inl (.inr ⟨h.1, Char.le_trans h.2 (by decide)⟩)

/-- what the parser needs of a path byte: `validEncoded` accepts it, it is not `?`, it is no control character -/
def plainPath (c : Char) : Prop :=
  validEncodedChar c = true ∧ c ≠ '?' ∧ ¬ (c.toNat < 0x20 ∨ c.toNat = 0x7f)

theorem isAlnum_plainPath (c : Char) (h : isAlnum c = true) : plainPath c := by
  refine ⟨by simp [validEncodedChar, shouldEscape, h], by rintro rfl; exact absurd h (by decide), ?_⟩
  simp only [isAlnum, Bool.or_eq_true, Bool.and_eq_true, decide_eq_true_eq, char_le_iff, Char.reduceToNat] at h
  omega

theorem marks_plainPath : ∀ c ∈ '/' :: '%' :: "-._~!$&'()*+,;=:@".toList, plainPath c := by
  unfold plainPath
  -- `rw`, not `simp`: it unifies the literal with `String.ofList _` instead of decoding it
  rw [String.toList_ofList]
  decide +kernel

theorem pchar_plainPath (c : Char) (h : pchar c = true ∨ c = '/') : plainPath c := by
  rcases h with h | rfl
  · rw [pchar, Bool.or_eq_true, List.contains_iff_mem] at h
    -- the table lists `/`, `%`, then the marks
    exact h.elim (isAlnum_plainPath c) fun h => marks_plainPath c (.tail _ (.tail _ h))
  · exact marks_plainPath '/' (.head _)

theorem plainPath_list (l : Bytes) (h : ∀ c ∈ l, plainPath c) :
    validEncoded l = true ∧ '?' ∉ l ∧ containsCTL l = false := by
  refine ⟨List.all_eq_true.mpr fun c hc => (h c hc).1, fun hq => (h _ hq).2.1 rfl, ?_⟩
  simp only [containsCTL, List.any_eq_false, Bool.or_eq_true, decide_eq_true_eq]
  exact fun c hc => (h c hc).2.2

/-! ## valid origin-form targets (RFC 3986: `"/" *( pchar / "/" )  [ "?" *( pchar / "/" / "?" ) ]`) -/

theorem validPathTail_facts (p : Bytes) (h : validPathTail p = true) :
    (∃ P, unescape p = some P) ∧ validEncoded p = true ∧ '?' ∉ p ∧ containsCTL p = false := by
  suffices hs : (∃ P, unescape p = some P) ∧ ∀ c ∈ p, plainPath c from ⟨hs.1, plainPath_list p hs.2⟩
  induction p using validPathTail.induct with
  | case1 => exact ⟨⟨[], rfl⟩, by simp⟩
  | case2 a b rest' ih =>
    simp only [validPathTail, if_true, Bool.and_eq_true] at h
    obtain ⟨⟨ha, hb⟩, hr⟩ := h
    obtain ⟨⟨P, hP⟩, hpl⟩ := ih hr
    refine ⟨⟨Char.ofNat (unhex a * 16 + unhex b) :: P, by simp [unescape, ha, hb, hP]⟩, ?_⟩
    simp only [List.forall_mem_cons]
    exact ⟨marks_plainPath '%' (.tail _ (.head _)), isAlnum_plainPath _ (ishex_isAlnum _ ha),
      isAlnum_plainPath _ (ishex_isAlnum _ hb), hpl⟩
  | case3 rest hrest =>
    simp only [validPathTail, if_true] at h
    exact absurd h (by decide)
  | case4 c rest hc ih =>
    unfold validPathTail at h
    simp only [hc, if_false, Bool.and_eq_true, Bool.or_eq_true, decide_eq_true_eq] at h
    obtain ⟨⟨P, hP⟩, hpl⟩ := ih h.2
    exact ⟨⟨c :: P, by unfold unescape; simp [hc, hP]⟩, List.forall_mem_cons.mpr ⟨pchar_plainPath _ h.1, hpl⟩⟩

theorem validQuery_noCTL (q : Bytes) (h : validQuery q = true) : containsCTL q = false := by
  simp only [containsCTL, List.any_eq_false, Bool.or_eq_true, decide_eq_true_eq]
  intro c hc
  have hq := List.all_eq_true.mp h c hc
  simp only [qchar, Bool.or_eq_true, decide_eq_true_eq] at hq
  rcases hq with (hq | rfl) | rfl
  · exact (pchar_plainPath c hq).2.2
  · decide
  · decide

theorem containsCTL_append (a b : Bytes) : containsCTL (a ++ b) = (containsCTL a || containsCTL b) := by
  simp [containsCTL]

theorem abempty_tail (p : Bytes) (hp : p = [] ∨ validPath p = true) :
    validPathTail p = true ∧ (p = [] ∨ p.head? = some '/') := by
  rcases hp with rfl | hp
  · exact ⟨rfl, Or.inl rfl⟩
  · simp only [validPath, Bool.and_eq_true, decide_eq_true_eq] at hp
    exact ⟨hp.2, Or.inr hp.1⟩

theorem target_eq (p : Bytes) (q : Option Bytes) : target p q = p ++ qstr q := by
  cases q <;> rfl

theorem cutQ_target (p : Bytes) (h : '?' ∉ p) (q : Option Bytes) : cutQ (p ++ qstr q) = (p, q) := by
  induction p with
  | nil => cases q <;> simp [cutQ, qstr]
  | cons c r ih =>
    have hc : c ≠ '?' := fun e => h (by simp [e])
    have hr : '?' ∉ r := fun e => h (by simp [e])
    simp [cutQ, hc, ih hr]

/-- the `ForceQuery` test of `url.parse` holds exactly for `path?` with nothing after the `?` -/
theorem forceQuery_test (b : Bytes) (hb : '?' ∉ b) (q : Option Bytes) :
    ((b ++ qstr q).getLast? = some '?' && (b ++ qstr q).count '?' = 1) = (qparts q).1 := by
  have h0 : b.count '?' = 0 := List.count_eq_zero.mpr hb
  match q with
  | none => simp [qstr, qparts, h0]
  | some [] => simp [qstr, qparts, List.count_append, h0]
  | some (x :: xs) =>
    -- a last byte `?` would be a second `?`, after the one that starts the query
    have hl : (b ++ '?' :: x :: xs).getLast? = (x :: xs).getLast? := by
      rw [List.getLast?_append, List.getLast?_cons_cons, List.getLast?_cons, Option.some_or]
    show ((b ++ '?' :: x :: xs).getLast? = some '?' && (b ++ '?' :: x :: xs).count '?' = 1) = false
    rw [Bool.and_eq_false_imp, hl]
    intro h
    have := List.count_pos_iff.mpr (List.mem_of_getLast? (of_decide_eq_true h))
    simp only [List.count_append, List.count_cons_self, decide_eq_false_iff_not]
    omega

theorem splitQuery_target (b : Bytes) (hb : '?' ∉ b) (q : Option Bytes) :
    splitQuery (b ++ qstr q) = (b, qparts q) := by
  unfold splitQuery
  rw [forceQuery_test b hb q, cutQ_target b hb q]
  match q with
  | none => rfl
  | some [] => show ((b ++ ['?']).dropLast, true, []) = _; rw [List.dropLast_concat]; rfl
  | some (x :: xs) => rfl

theorem qsuffix (q : Option Bytes) :
    (if (qparts q).1 || (qparts q).2 ≠ [] then '?' :: (qparts q).2 else []) = qstr q := by
  cases q with
  | none => simp [qparts, qstr]
  | some q' => cases q' <;> simp [qparts, qstr]

theorem setPath_of_unescape (u0 : URL) (p P : Bytes) (h : unescape p = some P) :
    setPath u0 p = some { u0 with path := P, rawPath := if p = escape P then [] else p } := by
  simp only [setPath, h]; split <;> rfl

theorem escapedPath_raw (v : URL) (h1 : v.rawPath ≠ []) (h2 : validEncoded v.rawPath = true)
    (h3 : unescape v.rawPath = some v.path) : escapedPath v = v.rawPath := by
  simp [escapedPath, h1, h2, h3]

theorem escapedPath_noRaw (v : URL) (h1 : v.rawPath = []) (h2 : v.path ≠ ['*']) : escapedPath v = escape v.path := by
  simp [escapedPath, h1, h2]

/-- `u0`: the URL literal the parser hands to `setPath`; `base`: the URL the four fields are copied into. Whichever way
`setPath` stores `p` (as RawPath or not), `EscapedPath` prints `p`. -/
theorem requestURI_setPath (base u0 : URL) (p : Bytes) (q : Option Bytes) (hv : p = [] ∨ validPath p = true)
    (hf : u0.forceQuery = (qparts q).1) (hr : u0.rawQuery = (qparts q).2) :
    ∃ u, setPath u0 p = some u ∧ u.host = u0.host ∧
      requestURI { base with path := u.path, rawPath := u.rawPath, rawQuery := u.rawQuery, forceQuery := u.forceQuery }
        = target (if p = [] then ['/'] else p) q := by
  obtain ⟨htail, hhead⟩ := abempty_tail p hv
  obtain ⟨⟨P, hP⟩, hve, -, -⟩ := validPathTail_facts p htail
  have print : ∀ v : URL, escapedPath v = p → v.forceQuery = u0.forceQuery → v.rawQuery = u0.rawQuery →
      requestURI v = target (if p = [] then ['/'] else p) q := fun v he hf' hr' => by
    simp only [requestURI, he, hf', hr', hf, hr, target_eq, ← qsuffix q]
    split
    · rfl
    · rw [List.append_nil]
  have hset := setPath_of_unescape u0 p P hP
  by_cases he : p = escape P
  · -- the path `*` is printed as it is; but it escapes to `%2A`, which is neither empty nor starts with `/`
    have hstar : P ≠ ['*'] := by
      rintro rfl
      rcases hhead with rfl | hh
      · exact absurd he (by decide)
      · rw [he] at hh; exact absurd hh (by decide)
    rw [if_pos he] at hset
    exact ⟨_, hset, rfl, print _ ((escapedPath_noRaw _ rfl hstar).trans he.symm) rfl rfl⟩
  · have hne : p ≠ [] := by
      rintro rfl
      simp only [unescape, Option.some.injEq] at hP
      exact he (by rw [← hP]; rfl)
    rw [if_neg he] at hset
    exact ⟨_, hset, rfl, print _ (escapedPath_raw _ hne hve hP) rfl rfl⟩

theorem containsCTL_qstr (q : Option Bytes) (hq : ∀ q', q = some q' → validQuery q' = true) :
    containsCTL (qstr q) = false := by
  cases hqe : q with
  | none => rfl
  | some q' =>
    have := validQuery_noCTL q' (hq q' hqe)
    simp only [qstr, containsCTL, List.any_cons, Bool.or_eq_false_iff] at this ⊢
    exact ⟨by decide, this⟩

theorem parseRequestURI_origin (t : Bytes) (hc : containsCTL t = false) (hh : t.head? = some '/') :
    parseRequestURI t =
      setPath { forceQuery := (splitQuery t).2.1, rawQuery := (splitQuery t).2.2 } (splitQuery t).1 := by
  unfold parseRequestURI splitQuery
  rw [if_neg (by simp [hc]), if_pos hh]
  split <;> rfl

/-- **request-target round trip** at the level of `net/url`: parse a valid target, copy path, raw path, raw query
and the force-query flag into any URL, print the request URI: the same bytes. -/
theorem requestURI_parse (base : URL) (p : Bytes) (q : Option Bytes)
    (hp : validPath p = true) (hq : ∀ q', q = some q' → validQuery q' = true) :
    ∃ u, parseRequestURI (target p q) = some u ∧
      requestURI { base with path := u.path, rawPath := u.rawPath, rawQuery := u.rawQuery, forceQuery := u.forceQuery }
        = target p q := by
  have hv := hp
  simp only [validPath, Bool.and_eq_true, decide_eq_true_eq] at hv
  obtain ⟨-, -, hnq, hctl⟩ := validPathTail_facts p hv.2
  have hne : p ≠ [] := by rintro rfl; exact absurd hv.1 (by decide)
  have hh : (p ++ qstr q).head? = some '/' := by rw [List.head?_append, hv.1]; rfl
  obtain ⟨u, hu, -, hreq⟩ :=
    requestURI_setPath base { forceQuery := (qparts q).1, rawQuery := (qparts q).2 } p q (Or.inr hp) rfl rfl
  rw [if_neg hne] at hreq
  refine ⟨u, ?_, hreq⟩
  rw [target_eq, parseRequestURI_origin _ (by rw [containsCTL_append, hctl, containsCTL_qstr q hq]; rfl) hh,
    splitQuery_target _ hnq q]
  exact hu

/-! ## absolute-form targets -/

/-- bytes in front of the path (scheme, simple authority): nothing `url.parse` treats specially except `:` -/
def frontChar (c : Char) : Bool := isAlnum c || c = '.' || c = '-' || c = '+' || c = ':'

theorem frontChar_plainPath (c : Char) (h : frontChar c = true) : plainPath c ∧ c ≠ '/' := by
  simp only [frontChar, Bool.or_eq_true, decide_eq_true_eq] at h
  rcases h with (((h | rfl) | rfl) | rfl) | rfl
  · exact ⟨isAlnum_plainPath c h, by rintro rfl; exact absurd h (by decide)⟩
  all_goals exact ⟨by unfold plainPath; decide, by decide⟩

theorem schemeChar_frontChar (c : Char) (h : schemeChar c = true) : frontChar c = true := by
  simp only [schemeChar, frontChar, isAlnum_eq, Bool.or_eq_true, decide_eq_true_eq] at h ⊢
  rcases h with (((h | h) | h) | h) | h <;> simp [h]

theorem simpleAuthority_cons (x : Char) (r : Bytes) :
    simpleAuthority (x :: r) =
      if x = ':' then r.all isDigit else (isAlnum x || x = '.' || x = '-') && simpleAuthority r := by
  by_cases hx : x = ':' <;> simp [simpleAuthority, hx, Bool.and_assoc]

theorem simpleAuthority_frontChar (a : Bytes) (h : simpleAuthority a = true) : ∀ c ∈ a, frontChar c = true := by
  induction a with
  | nil => simp
  | cons x r ih =>
    rw [simpleAuthority_cons] at h
    intro c hc
    split at h
    · next hx =>
      rcases List.mem_cons.mp hc with rfl | hc
      · subst hx; decide
      · simp [frontChar, isAlnum_eq, List.all_eq_true.mp h c hc]
    · simp only [Bool.and_eq_true, Bool.or_eq_true, decide_eq_true_eq] at h
      rcases List.mem_cons.mp hc with rfl | hc
      · rcases h.1 with (hx | hx) | hx <;> simp [frontChar, hx]
      · exact ih h.2 c hc

theorem frontChar_list (l : Bytes) (h : ∀ c ∈ l, frontChar c = true) :
    '?' ∉ l ∧ '/' ∉ l ∧ containsCTL l = false :=
  have hl := plainPath_list l fun c hc => (frontChar_plainPath c (h c hc)).1
  ⟨hl.2.1, fun hs => (frontChar_plainPath _ (h _ hs)).2 rfl, hl.2.2⟩

theorem scanScheme_tail (s rest : Bytes) (hs : s.all schemeChar = true) :
    scanScheme false (s ++ ':' :: rest) = .found s rest := by
  induction s with
  | nil => simp [scanScheme, isAlpha, isDigit]
  | cons c r ih =>
    simp only [List.all_cons, Bool.and_eq_true] at hs
    simp only [List.cons_append, scanScheme, ih hs.2]
    by_cases ha : isAlpha c = true
    · simp [ha]
    · have hc : (isDigit c || decide (c = '+') || decide (c = '-') || decide (c = '.')) = true := by
        simpa [schemeChar, ha] using hs.1
      simp [ha, hc]

theorem takeWhile_dropWhile_slash (a p : Bytes) (ha : '/' ∉ a) (hp : p = [] ∨ p.head? = some '/') :
    (a ++ p).takeWhile (fun x => decide (x ≠ '/')) = a ∧ (a ++ p).dropWhile (fun x => decide (x ≠ '/')) = p := by
  have ha' : ∀ c ∈ a, decide (c ≠ '/') = true := fun c hc => decide_eq_true fun e => ha (e ▸ hc)
  rw [List.takeWhile_append_of_pos ha', List.dropWhile_append_of_pos ha']
  rcases hp with rfl | hp
  · simp
  · cases p with
    | nil => simp at hp
    | cons x xs => obtain rfl : x = '/' := Option.some.inj hp; simp

theorem parseRequestURI_abs (s a p : Bytes) (q : Option Bytes)
    (hs : validScheme s = true) (ha : simpleAuthority a = true) (hp : p = [] ∨ validPath p = true)
    (hq : ∀ q', q = some q' → validQuery q' = true) :
    parseRequestURI (absTarget s a p q) =
      setPath { scheme := String.ofList (s.map Char.toLower), host := String.ofList a,
                forceQuery := (qparts q).1, rawQuery := (qparts q).2 } p := by
  obtain ⟨c, s', rfl⟩ : ∃ c s', s = c :: s' := by
    cases s with
    | nil => simp [validScheme] at hs
    | cons c s' => exact ⟨c, s', rfl⟩
  simp only [validScheme, Bool.and_eq_true] at hs
  obtain ⟨hc, hs'⟩ := hs
  obtain ⟨-, hsNoSlash, hsNoCTL⟩ := frontChar_list (c :: s') fun x hx => schemeChar_frontChar x <| by
    rcases List.mem_cons.mp hx with rfl | hx
    · simp [schemeChar, hc]
    · exact List.all_eq_true.mp hs' x hx
  obtain ⟨haNoQ, haNoSlash, haNoCTL⟩ := frontChar_list a (simpleAuthority_frontChar a ha)
  obtain ⟨htail, hphead⟩ := abempty_tail p hp
  obtain ⟨-, -, hpq, hpctl⟩ := validPathTail_facts p htail
  have hshape : absTarget (c :: s') a p q = (c :: s') ++ ([':', '/', '/'] ++ (a ++ (p ++ qstr q))) := by
    simp [absTarget, target_eq]
  have hctl : containsCTL (absTarget (c :: s') a p q) = false := by
    rw [hshape]
    simp only [containsCTL_append, hsNoCTL, show containsCTL [':', '/', '/'] = false by decide, haNoCTL, hpctl,
      containsCTL_qstr q hq, Bool.or_false]
  have hscan : scanScheme true (absTarget (c :: s') a p q) = .found (c :: s') ('/' :: '/' :: (a ++ p) ++ qstr q) := by
    rw [hshape]
    simp [scanScheme, hc, scanScheme_tail s' _ hs']
  have hb : '?' ∉ '/' :: '/' :: (a ++ p) := by
    simp only [List.mem_cons, List.mem_append, not_or]
    exact ⟨by decide, by decide, haNoQ, hpq⟩
  obtain ⟨htw, hdw⟩ := takeWhile_dropWhile_slash a p haNoSlash hphead
  have hnotOrigin : ¬ (absTarget (c :: s') a p q).head? = some '/' := by
    -- `c` heads `c :: s'`, which has no `/`
    rw [hshape]; simpa using fun e : c = '/' => hsNoSlash (e ▸ List.mem_cons_self)
  unfold parseRequestURI
  rw [if_neg (by rw [hctl]; simp), if_neg hnotOrigin, hscan]
  simp only [splitQuery_target _ hb q, htw, hdw, ha, if_true]

/-- **request-target round trip, absolute-form**: the path (`/` if empty) and the query of a valid absolute-form
target come out of parse → copy → `RequestURI()` byte for byte; scheme and authority of the target are not used. -/
theorem requestURI_parse_abs (base : URL) (s a p : Bytes) (q : Option Bytes)
    (hs : validScheme s = true) (ha : simpleAuthority a = true) (hp : p = [] ∨ validPath p = true)
    (hq : ∀ q', q = some q' → validQuery q' = true) :
    ∃ u, parseRequestURI (absTarget s a p q) = some u ∧ u.host = String.ofList a ∧
      requestURI { base with path := u.path, rawPath := u.rawPath, rawQuery := u.rawQuery, forceQuery := u.forceQuery }
        = target (if p = [] then ['/'] else p) q := by
  rw [parseRequestURI_abs s a p q hs ha hp hq]
  exact requestURI_setPath base _ p q hp rfl rfl

end FwdURL
