import OxyModel.Proofs.Forward.Spec
import OxyModel.Proofs.Forward.Names
/-! Header maps are read through `List.lookup`: `vals`, `has`, `get` are functions of it, and `del`, `set`, `delAll`
each change it at their own keys only. -/
namespace Fwd

attribute [hdr_names] XForwardedProto XForwardedFor XForwardedHost XForwardedPort XForwardedServer XRealIP Connection

theorem lookup_filter_key (p : String → Bool) (l : Hdr) (k' : String) :
    (l.filter (fun e => p e.1)).lookup k' = if p k' then l.lookup k' else none := by
  induction l with
  | nil => simp
  | cons e t ih =>
    obtain ⟨a, b⟩ := e
    by_cases hk : k' = a
    · -- an entry under `k'` is found first, or dropped
      subst hk; by_cases hpa : p k' = true <;> simp [hpa, ih]
    · -- any other entry is skipped, kept or not
      have : (k' == a) = false := by simpa using hk
      by_cases hpa : p a = true <;> simp [List.lookup_cons, hpa, this, ih]

theorem vals_eq_lookup (h : Hdr) (k : String) : vals h k = (h.lookup k).getD [] := rfl
theorem has_eq_lookup (h : Hdr) (k : String) : has h k = (h.lookup k).isSome := rfl
theorem get_eq_lookup (h : Hdr) (k : String) : get h k = ((h.lookup k).getD []).headD "" := rfl

theorem lookup_del (h : Hdr) (k k' : String) :
    (del h k).lookup k' = if k' = k then none else h.lookup k' := by
  have := lookup_filter_key (fun x => decide (x ≠ k)) h k'
  simp only [del]
  rw [this]; by_cases hk : k' = k <;> simp [hk]

theorem lookup_set (h : Hdr) (k v k' : String) :
    (set h k v).lookup k' = if k' = k then some [v] else h.lookup k' := by
  by_cases hk : k' = k
  · subst hk; simp [set]
  · have : (k' == k) = false := by simpa using hk
    simp [set, List.lookup_cons, this, lookup_del, hk]

theorem lookup_ite_set (c : Prop) [Decidable c] (h : Hdr) (k v k' : String) :
    (if c then set h k v else h).lookup k' = if k' = k ∧ c then some [v] else h.lookup k' := by
  split <;> simp [lookup_set, *]

theorem lookup_delAll (ks : List String) (h : Hdr) (k' : String) :
    (delAll ks h).lookup k' = if k' ∈ ks then none else h.lookup k' := by
  induction ks generalizing h with
  | nil => simp [delAll]
  | cons k t ih =>
    simp only [delAll, List.foldl_cons] at ih ⊢
    rw [ih, lookup_del]
    by_cases h1 : k' ∈ t
    · simp [h1]
    · by_cases h2 : k' = k <;> simp [h1, h2]

theorem vals_del (h : Hdr) (k k' : String) : vals (del h k) k' = if k' = k then [] else vals h k' := by
  simp only [vals, lookup_del]; split <;> simp
theorem vals_set (h : Hdr) (k v k' : String) : vals (set h k v) k' = if k' = k then [v] else vals h k' := by
  simp only [vals, lookup_set]; split <;> simp
theorem vals_delAll (ks : List String) (h : Hdr) (k' : String) :
    vals (delAll ks h) k' = if k' ∈ ks then [] else vals h k' := by
  simp only [vals, lookup_delAll]; split <;> simp
theorem has_del (h : Hdr) (k k' : String) : has (del h k) k' = if k' = k then false else has h k' := by
  simp only [has, lookup_del]; split <;> simp
theorem has_set (h : Hdr) (k v k' : String) : has (set h k v) k' = if k' = k then true else has h k' := by
  simp only [has, lookup_set]; split <;> simp
theorem has_delAll (ks : List String) (h : Hdr) (k' : String) :
    has (delAll ks h) k' = if k' ∈ ks then false else has h k' := by
  simp only [has, lookup_delAll]; split <;> simp
theorem get_set (h : Hdr) (k v k' : String) : get (set h k v) k' = if k' = k then v else get h k' := by
  simp only [get, vals_set]; split <;> simp

end Fwd
