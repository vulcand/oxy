import Lean.Meta.Tactic.Simp.RegisterCommand
/-! The simp set of the header-name constants. -/

/-- The header-name constants of `Model/Forward.lean` (`XForwardedFor`, …, `XRealIP`, `Connection`; given the attribute in
`Hdr.lean`). A stage's `lookup` equation tests `k = XForwardedProto`; at a literal name `simp only [hdr_names, String.reduceEq]`
unfolds the constants and compares the literals, which leaves the row that answers. -/
register_simp_attr hdr_names
