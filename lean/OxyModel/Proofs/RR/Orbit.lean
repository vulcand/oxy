import OxyModel.Proofs.RR.Folds

/-! Where the iterator stands after `P` loop iterations from a reset (the orbit `o`), in closed form, and which iterations
select their server (`hit`). -/

namespace RR

theorem advance_idx1 (n g mx : Nat) (s : It) : (advance n g mx s).idx1 = s.idx1 % n + 1 := by
  fun_cases advance n g mx s <;> rfl

/-- fixed pool with a positive maximal weight -/
structure Ctx where
  ws : List Nat
  hmx : 0 < maxW ws

namespace Ctx
variable (c : Ctx)

def n : Nat := c.ws.length
def g : Nat := gcdW c.ws
def mx : Nat := maxW c.ws
/-- sweeps over the pool per period -/
def L : Nat := c.mx / c.g
/-- loop iterations per period -/
def M : Nat := c.L * c.n

theorem g_pos : 0 < c.g := gcdW_pos c.hmx
theorem n_pos : 0 < c.n := List.length_pos_of_mem (maxW_mem c.hmx)
theorem mx_eq : c.mx = c.L * c.g := (Nat.div_mul_cancel (gcdW_dvd_maxW c.hmx)).symm
theorem L_pos : 0 < c.L := Nat.div_pos (Nat.le_of_dvd c.hmx (gcdW_dvd_maxW c.hmx)) c.g_pos
theorem M_pos : 0 < c.M := Nat.mul_pos c.L_pos c.n_pos

/-- orbit of the iterator: state after `P` loop iterations from a reset iterator -/
def o (c : Ctx) : Nat → It
  | 0 => It.reset
  | P + 1 => advance c.n c.g c.mx (o c P)

/-- The orbit in closed form: iteration `P` stands at server `P % n` in sweep `P / n`, and the level counts down
from `L·g` by `g` per sweep, starting over after `L` sweeps. -/
theorem o_succ (P : Nat) : c.o (P + 1) = ⟨P % c.n + 1, (c.L - P / c.n % c.L) * c.g⟩ := by
  induction P with
  | zero =>
    rw [o, o, It.reset, advance]
    simp only [Nat.zero_mod, if_true, Nat.zero_le, Nat.zero_div, Nat.sub_zero, mx_eq]
  | succ P ih =>
    rw [o, ih, advance]
    simp only [Nat.mod_add_mod]
    by_cases hd : (P + 1) % c.n = 0
    · -- a sweep ends: the level steps down, or starts over after the last one
      rw [if_pos hd, Nat.succ_div_of_mod_eq_zero hd, hd, ← Nat.mod_add_mod (P / c.n)]
      have ha := Nat.mod_lt (P / c.n) c.L_pos
      generalize P / c.n % c.L = a at ha
      rcases Nat.lt_or_eq_of_le (show a + 1 ≤ c.L from ha) with hw | hw
      · have h1 : 1 < c.L - a := by omega
        rw [Nat.mod_eq_of_lt hw, Nat.sub_add_eq, Nat.sub_one_mul,
          if_neg (Nat.not_le.mpr ((Nat.lt_mul_iff_one_lt_left c.g_pos).mpr h1))]
      · rw [mx_eq, ← hw, Nat.mod_self, Nat.add_sub_cancel_left, Nat.one_mul, if_pos (Nat.le_refl _)]
        rfl
    · rw [if_neg hd, Nat.succ_div_of_mod_ne_zero hd]

theorem o_cw_pos (P : Nat) : 0 < (c.o (P + 1)).cw := by
  rw [o_succ]; exact Nat.mul_pos (Nat.sub_pos_of_lt (Nat.mod_lt _ c.L_pos)) c.g_pos

/-- position `p` (0-based count of loop iterations since reset) selects its server -/
def hit (p : Nat) : Prop := (c.o (p + 1)).cw ≤ c.ws.getD (p % c.n) 0

instance : DecidablePred c.hit := fun p => by unfold hit; exact inferInstance

/-- In sweep `a` exactly the servers of weight at least `(L - a % L)·g` are selected. -/
theorem hit_iff (p : Nat) : c.hit p ↔ c.L - p / c.n % c.L ≤ c.ws.getD (p % c.n) 0 / c.g := by
  rw [hit, o_succ, Nat.le_div_iff_mul_le c.g_pos]

theorem hit_periodic (p : Nat) : c.hit (p + c.M) ↔ c.hit p := by
  rw [hit_iff, hit_iff, M, Nat.add_mul_mod_self_right, Nat.add_mul_div_right _ _ c.n_pos, Nat.add_mod_right]

theorem hit_pos {p : Nat} (h : c.hit p) : 0 < c.ws.getD (p % c.n) 0 := Nat.lt_of_lt_of_le (c.o_cw_pos p) h

/-- a server of maximal weight is selected in every sweep -/
theorem exists_hit (P : Nat) : ∃ q, P ≤ q ∧ q < P + c.n ∧ c.hit q := by
  obtain ⟨i, (hi : i < c.n), hget⟩ := List.getElem_of_mem (maxW_mem c.hmx)
  -- the next position of server `i` from `P` on
  refine ⟨P + (i + c.n - P % c.n) % c.n, Nat.le_add_right _ _, Nat.add_lt_add_left (Nat.mod_lt _ c.n_pos) P, ?_⟩
  have e : P + (i + c.n - P % c.n) = c.n * (P / c.n) + i + c.n := by
    have := Nat.div_add_mod P c.n
    have := Nat.mod_lt P c.n_pos
    omega
  rw [hit_iff, Nat.add_mod_mod, e, Nat.add_mod_right, Nat.mul_add_mod, Nat.mod_eq_of_lt hi, ← List.getElem_eq_getD (h := hi) 0,
    hget]
  exact Nat.sub_le _ _

end Ctx
end RR
