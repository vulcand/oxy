import OxyModel.Model.RoundRobin
import Mathlib.Data.Nat.Count
import Mathlib.Algebra.BigOperators.Ring.Finset
import Mathlib.Algebra.Order.Group.Nat
import Mathlib.Tactic.WLOG

/-! `gcdW` divides every weight, `maxW` is the greatest of them (or 0).  Pool and Rebal import Mathlib through this file, on purpose:
`List.sum` finds the same instances in RR, Pool and Rebal. -/
namespace RR

theorem foldl_gcd_dvd {α : Type} (f : α → Nat) (l : List α) (a : Nat) :
    l.foldl (fun d x => Nat.gcd d (f x)) a ∣ a ∧ ∀ x ∈ l, l.foldl (fun d x => Nat.gcd d (f x)) a ∣ f x := by
  induction l generalizing a with
  | nil => simp
  | cons y l ih =>
    obtain ⟨h1, h2⟩ := ih (Nat.gcd a (f y))
    exact ⟨h1.trans (Nat.gcd_dvd_left a (f y)), fun x hx => (List.mem_cons.mp hx).elim
      (fun e => e ▸ h1.trans (Nat.gcd_dvd_right a (f y))) (h2 x)⟩

theorem gcdW_dvd {ws : List Nat} {w : Nat} (h : w ∈ ws) : gcdW ws ∣ w := (foldl_gcd_dvd id ws 0).2 w h

theorem maxW_spec (ws : List Nat) : maxW ws ∈ 0 :: ws ∧ ∀ w ∈ 0 :: ws, w ≤ maxW ws :=
  List.max?_eq_some_iff.mp List.max?_cons'

theorem le_maxW {ws : List Nat} {w : Nat} (h : w ∈ ws) : w ≤ maxW ws :=
  (maxW_spec ws).2 w (List.mem_cons_of_mem _ h)

theorem maxW_mem {ws : List Nat} (h : 0 < maxW ws) : maxW ws ∈ ws :=
  (List.mem_cons.mp (maxW_spec ws).1).resolve_left (Nat.ne_of_gt h)

theorem gcdW_dvd_maxW {ws : List Nat} (h : 0 < maxW ws) : gcdW ws ∣ maxW ws := gcdW_dvd (maxW_mem h)

theorem gcdW_pos {ws : List Nat} (h : 0 < maxW ws) : 0 < gcdW ws :=
  Nat.pos_of_dvd_of_pos (gcdW_dvd_maxW h) h

end RR
