import OxyModel.Proofs.RR.Loop

/-! Calls counted as hits below a position (`Nat.count`): `k` calls from the orbit are the next `k` hits, so as many calls as
one period has hits select each server as often as one period does. -/

namespace RR

section
variable {q r : Nat → Prop} [DecidablePred q] [DecidablePred r]

theorem count_add_of_periodic {M : Nat} (hq : ∀ p, q (p + M) ↔ q p) (a : Nat) :
    Nat.count q (a + M) = Nat.count q a + Nat.count q M := by
  induction a with
  | zero => rw [Nat.zero_add, Nat.count_zero, Nat.zero_add]
  | succ a ih => rw [Nat.add_right_comm, Nat.count_succ, Nat.count_succ, ih, if_congr (hq a) rfl rfl, Nat.add_right_comm]

/-- where a predicate has no instance between `a` and `b`, a stronger one has none either -/
theorem count_eq_of_imp (h : ∀ p, r p → q p) {a b : Nat} (e : Nat.count q a = Nat.count q b) :
    Nat.count r a = Nat.count r b := by
  wlog hab : a ≤ b generalizing a b
  · exact (this e.symm (Nat.le_of_not_le hab)).symm
  obtain ⟨d, rfl⟩ := Nat.exists_eq_add_of_le hab
  rw [Nat.count_add] at e ⊢
  have hr := (Nat.count_mono_left fun k _ => h (a + k)).trans_eq (Nat.left_eq_add.mp e)
  rw [Nat.eq_zero_of_le_zero hr, Nat.add_zero]

theorem count_congr_lt {n : Nat} (h : ∀ k, k < n → (q k ↔ r k)) : Nat.count q n = Nat.count r n :=
  Nat.le_antisymm (Nat.count_mono_left fun k hk => (h k hk).mp) (Nat.count_mono_left fun k hk => (h k hk).mpr)

theorem count_indicator {i n : Nat} (hi : i < n) (C : Prop) [Decidable C] :
    Nat.count (fun k => k = i ∧ C) n = if C then 1 else 0 := by
  split
  · simp only [‹C›, and_true, Nat.count_eq_card_filter_range, Finset.filter_eq', Finset.mem_range, hi, if_true,
      Finset.card_singleton]
  · exact Nat.count_iff_forall_not.mpr fun _ _ h => ‹¬ C› h.2

end

namespace Ctx
variable (c : Ctx)

/-- iteration `p` selects, and it is server `i`'s turn -/
def hitI (i p : Nat) : Prop := c.hit p ∧ p % c.n = i

instance (i : Nat) : DecidablePred (c.hitI i) := fun p => by unfold hitI; exact inferInstance

theorem hitI_periodic (i p : Nat) : c.hitI i (p + c.M) ↔ c.hitI i p := by
  rw [hitI, hitI, c.hit_periodic p, M, Nat.add_mul_mod_self_right]

/-- `k` calls from the orbit end on the orbit, at a position `Q` such that the calls are the hits in `[P, Q)` -/
theorem calls_spec (k : Nat) : ∀ P, ∃ Q, after c.ws k (c.o P) = c.o Q ∧
    Nat.count c.hit Q = Nat.count c.hit P + k ∧
    ∀ i, (run c.ws k (c.o P)).count (.sel i) + Nat.count (c.hitI i) P = Nat.count (c.hitI i) Q := by
  induction k with
  | zero => exact fun P => ⟨P, rfl, rfl, fun i => Nat.zero_add _⟩
  | succ k ih =>
    intro P
    obtain ⟨q, hcnt, hq, hnext⟩ := c.next_spec P
    obtain ⟨Q, hQ, hcount, hrun⟩ := ih (q + 1)
    have hhit : Nat.count c.hit (q + 1) = Nat.count c.hit P + 1 := by rw [Nat.count_succ, if_pos hq, hcnt]
    have hhitI (i : Nat) : Nat.count (c.hitI i) (q + 1) = Nat.count (c.hitI i) P + if q % c.n = i then 1 else 0 := by
      rw [Nat.count_succ, count_eq_of_imp (r := c.hitI i) (fun _ h => h.1) hcnt]
      exact congrArg _ (if_congr (and_iff_right hq) rfl rfl)
    refine ⟨Q, by rw [after, hnext, hQ], ?_, fun i => ?_⟩
    · omega
    · rw [← hrun i, hhitI, run, hnext, List.count_cons]
      simp only [beq_iff_eq, Res.sel.injEq]
      rw [Nat.add_assoc, Nat.add_comm (Nat.count _ P)]

theorem after_reset (j : Nat) : ∃ Q, after c.ws j It.reset = c.o Q := (c.calls_spec j 0).imp fun _ h => h.1

/-- number of selections in one period -/
def W : Nat := Nat.count c.hit c.M

/-- **window lemma**: `W` consecutive calls, started anywhere on the orbit, select server `i`
    exactly as often as one period does -/
theorem window_count (i P : Nat) :
    (run c.ws c.W (c.o P)).count (.sel i) = Nat.count (c.hitI i) c.M := by
  obtain ⟨Q, -, hQ, hrun⟩ := c.calls_spec c.W P
  -- `Q` and `P + M` have the same number of hits below them, so no hit lies between them
  have h := count_eq_of_imp (r := c.hitI i) (fun _ hp => hp.1)
    (hQ.trans (count_add_of_periodic c.hit_periodic P).symm)
  rw [count_add_of_periodic (c.hitI_periodic i)] at h
  have := hrun i
  omega

end Ctx

/-- a weight vector with a positive weight, as a `Ctx` -/
def Ctx.ofPos (ws : List Nat) (h : ∃ w ∈ ws, 0 < w) : Ctx :=
  ⟨ws, by obtain ⟨w, hw, hp⟩ := h; exact Nat.lt_of_lt_of_le hp (le_maxW hw)⟩

theorem next_after_sel (ws : List Nat) (h : ∃ w ∈ ws, 0 < w) (j : Nat) :
    ∃ i s', next ws (after ws j It.reset) = (.sel i, s') ∧ i < ws.length ∧ 0 < ws.getD i 0 := by
  obtain ⟨Q, hQ⟩ := (Ctx.ofPos ws h).after_reset j
  rw [show after ws j It.reset = _ from hQ]
  exact (Ctx.ofPos ws h).next_orbit_sel Q

end RR
