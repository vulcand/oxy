import OxyModel.Proofs.RR.Count
import Mathlib.Algebra.BigOperators.Group.Finset.Basic

/-! One period selects server `i` exactly `w_i / g` times, `(Σ w_i) / g` times in all: the window law. -/

namespace C01
open RR

/-- the window length: the number of selections in one period (`RR.Ctx.W_eq`) -/
def W (ws : List Nat) : Nat := ws.sum / gcdW ws

end C01

namespace RR

theorem count_split (q : Nat → Prop) [DecidablePred q] (f : Nat → Nat) (n : Nat) (hf : ∀ p, f p < n) (m : Nat) :
    Nat.count q m = ∑ i ∈ Finset.range n, Nat.count (fun p => q p ∧ f p = i) m := by
  simp only [Nat.count_eq_card_filter_range, ← Finset.filter_filter]
  exact Finset.card_eq_sum_card_fiberwise fun p _ => Finset.mem_range.mpr (hf p)

theorem sum_range_getD (l : List Nat) : (∑ i ∈ Finset.range l.length, l.getD i 0) = l.sum := by
  induction l with
  | nil => rfl
  | cons a l ih => rw [List.length_cons, Finset.sum_range_succ', List.sum_cons, ← ih, Nat.add_comm]; rfl

namespace Ctx
variable (c : Ctx)

theorem hitI_sweep {i a k : Nat} (ha : a < c.L) (hk : k < c.n) :
    c.hitI i (a * c.n + k) ↔ k = i ∧ c.L - c.ws.getD i 0 / c.g ≤ a := by
  rw [hitI, hit_iff, Nat.mul_comm, Nat.mul_add_mod, Nat.mul_add_div c.n_pos, Nat.mod_eq_of_lt hk,
    Nat.div_eq_of_lt hk, Nat.add_zero, Nat.mod_eq_of_lt ha, tsub_le_iff_tsub_le]
  exact ⟨fun ⟨h, e⟩ => ⟨e, e ▸ h⟩, fun ⟨e, h⟩ => ⟨e ▸ h, e⟩⟩

/-- Server `i` is selected once in each of the last `w_i / g` sweeps of a period, and in no other. -/
theorem count_hitI_sweeps {i : Nat} (hi : i < c.n) (a : Nat) (ha : a ≤ c.L) :
    Nat.count (c.hitI i) (a * c.n) = a - (c.L - c.ws.getD i 0 / c.g) := by
  induction a with
  | zero => rw [Nat.zero_mul, Nat.count_zero, Nat.zero_sub]
  | succ a ih =>
    rw [Nat.add_mul, Nat.one_mul, Nat.count_add, ih (Nat.le_of_succ_le ha),
      count_congr_lt fun k hk => c.hitI_sweep ha hk, count_indicator hi]
    split
    · exact (Nat.succ_sub ‹_›).symm
    · omega

theorem count_hitI_period (i : Nat) : Nat.count (c.hitI i) c.M = c.ws.getD i 0 / c.g := by
  by_cases hi : i < c.n
  · have hw : c.ws.getD i 0 ∈ c.ws := List.getElem_eq_getD (h := hi) 0 ▸ List.getElem_mem hi
    rw [M, c.count_hitI_sweeps hi c.L (Nat.le_refl _)]
    exact Nat.sub_sub_self (Nat.div_le_div_right (le_maxW hw))
  · rw [List.getD_eq_getElem?_getD, List.getElem?_eq_none (Nat.le_of_not_lt hi), Option.getD_none, Nat.zero_div]
    exact Nat.count_iff_forall_not.mpr fun p _ hp => hi (hp.2 ▸ Nat.mod_lt p c.n_pos)

/-- **C01 (core)**: any `W` consecutive selections (after any number `j` of earlier calls
    from a reset iterator) choose server `i` exactly `w_i / g` times. -/
theorem C01_window (i j : Nat) :
    (run c.ws c.W (after c.ws j It.reset)).count (.sel i) = c.ws.getD i 0 / c.g := by
  obtain ⟨Q, hQ⟩ := c.after_reset j
  rw [hQ, c.window_count, c.count_hitI_period]

/-- the selections of one period, counted server by server -/
theorem W_eq : c.W = c.ws.sum / c.g := by
  have hdvd : ∀ i ∈ Finset.range c.n, c.g ∣ c.ws.getD i 0 := fun i hi =>
    gcdW_dvd (List.getElem_eq_getD (h := Finset.mem_range.mp hi) 0 ▸ List.getElem_mem _)
  rw [W, count_split c.hit (· % c.n) c.n (fun p => Nat.mod_lt p c.n_pos)]
  exact (Finset.sum_congr rfl fun i _ => c.count_hitI_period i).trans
    ((Nat.sum_div hdvd).symm.trans (congrArg (· / c.g) (sum_range_getD c.ws)))

end Ctx
/-! The law for a bare weight vector with a positive weight. -/

theorem window_law (ws : List Nat) (h : ∃ w ∈ ws, 0 < w) (i j : Nat) :
    (run ws (C01.W ws) (after ws j It.reset)).count (.sel i) = ws.getD i 0 / gcdW ws := by
  have := (Ctx.ofPos ws h).C01_window i j
  rwa [Ctx.W_eq] at this

/-- the window selects a server of positive weight `w / gcd ≥ 1` times -/
theorem window_selects {ws : List Nat} {i : Nat} (hi : i < ws.length) (hpos : 0 < ws[i]) (j : Nat) :
    Res.sel i ∈ run ws (C01.W ws) (after ws j It.reset) := by
  have hm := List.getElem_mem hi
  apply List.count_pos_iff.mp
  rw [window_law ws ⟨_, hm, hpos⟩ i j, List.getD_eq_getElem?_getD, List.getElem?_eq_getElem hi]
  exact Nat.div_pos (Nat.le_of_dvd hpos (gcdW_dvd hm)) (gcdW_pos (Nat.lt_of_lt_of_le hpos (le_maxW hm)))

end RR
