import OxyModel.Proofs.RR.Orbit

/-! A call of `next` from the orbit runs to the first hit.  Before that, what holds from any iterator position. -/

namespace RR

theorem loop_sel_lt {ws : List Nat} {g mx : Nat} (hn : 0 < ws.length) {fuel : Nat} :
    ∀ {s s' : It} {i : Nat}, loop ws g mx fuel s = (.sel i, s') → i < ws.length := by
  intro s s' i h
  -- the branches of `loop`: out of fuel, the all-zero error, a selection, the next iteration
  fun_induction loop ws g mx fuel s with
  | case1 => exact Res.noConfusion (congrArg Prod.fst h)
  | case2 => exact Res.noConfusion (congrArg Prod.fst h)
  | case3 =>
    rw [← Res.sel.inj (congrArg Prod.fst h), advance_idx1, Nat.add_sub_cancel]
    exact Nat.mod_lt _ hn
  | case4 _ _ _ _ _ ih => exact ih h

theorem next_sel_lt {ws : List Nat} {s s' : It} {i : Nat} (h : next ws s = (.sel i, s')) : i < ws.length := by
  revert h
  -- no servers, all weights zero, the loop
  fun_cases next ws s with
  | case1 => exact fun h => Res.noConfusion (congrArg Prod.fst h)
  | case2 => exact fun h => Res.noConfusion (congrArg Prod.fst h)
  | case3 hl => exact loop_sel_lt (Nat.pos_of_ne_zero hl)

theorem run_add (ws : List Nat) (a b : Nat) : ∀ s,
    run ws (a + b) s = run ws a s ++ run ws b (after ws a s) := by
  induction a with
  | zero => intro s; rw [Nat.zero_add]; rfl
  | succ a ih => intro s; rw [Nat.succ_add]; exact congrArg (_ :: ·) (ih _)

theorem after_add (ws : List Nat) (a b : Nat) : ∀ s,
    after ws (a + b) s = after ws b (after ws a s) := by
  induction a with
  | zero => intro s; rw [Nat.zero_add]; rfl
  | succ a ih => intro s; rw [Nat.succ_add]; exact ih _

theorem after_reset_next {ws : List Nat} {s : It} (h : ∃ j, s = after ws j It.reset) :
    ∃ j, (next ws s).2 = after ws j It.reset := by
  obtain ⟨j, rfl⟩ := h
  exact ⟨j + 1, by rw [after_add]; rfl⟩

theorem mem_run {ws : List Nat} {r : Res} {k : Nat} : ∀ {s}, r ∈ run ws k s →
    ∃ m, r = (next ws (after ws m s)).1 := by
  induction k with
  | zero => intro s hr; cases hr
  | succ k ih =>
    intro s hr
    rcases List.mem_cons.mp hr with rfl | hr
    · exact ⟨0, rfl⟩
    · obtain ⟨m, hm⟩ := ih hr
      exact ⟨m + 1, hm⟩

namespace Ctx
variable (c : Ctx)

/-- The loop, started after `P` iterations with a hit within reach of its fuel, stops at the first hit `q` from `P` on: no hit
lies between them, that is, as many hits lie below `q` as below `P`. -/
theorem loop_spec (fuel : Nat) : ∀ P, (∃ q, P ≤ q ∧ q < P + fuel ∧ c.hit q) →
    ∃ q, Nat.count c.hit q = Nat.count c.hit P ∧ c.hit q ∧
      loop c.ws c.g c.mx fuel (c.o P) = (.sel (q % c.n), c.o (q + 1)) := by
  induction fuel with
  | zero => rintro P ⟨q, hPq, hq, -⟩; exact absurd hq (Nat.not_lt.mpr hPq)
  | succ fuel ih =>
    rintro P ⟨q, hPq, hq, hh⟩
    have hcw : (c.o (P + 1)).cw ≠ 0 := Nat.ne_of_gt (c.o_cw_pos P)
    have hidx : (c.o (P + 1)).idx1 - 1 = P % c.n := by rw [o_succ]; rfl
    -- `c.n` is `c.ws.length` by definition, so the loop's first step is the orbit's
    rw [loop, show advance c.ws.length c.g c.mx (c.o P) = c.o (P + 1) from rfl, if_neg (fun h => hcw h.2), hidx]
    by_cases hP : c.hit P
    · exact ⟨P, rfl, hP, if_pos hP⟩
    · have hlt : P < q := Nat.lt_of_le_of_ne hPq fun e => hP (e ▸ hh)
      obtain ⟨q', h1, h2, h3⟩ := ih (P + 1) ⟨q, hlt, by omega, hh⟩
      exact ⟨q', by rw [h1, Nat.count_succ, if_neg hP, Nat.add_zero], h2, (if_neg hP).trans h3⟩

/-- the fuel of a call: one period, one sweep and one step -/
theorem next_eq (s : It) : next c.ws s = loop c.ws c.g c.mx (c.n * c.L + c.n + 1) s := by
  rw [next, if_neg (show c.ws.length ≠ 0 from Nat.ne_of_gt c.n_pos)]
  exact if_neg (Nat.ne_of_gt c.hmx)

theorem next_spec (P : Nat) : ∃ q, Nat.count c.hit q = Nat.count c.hit P ∧ c.hit q ∧
    next c.ws (c.o P) = (.sel (q % c.n), c.o (q + 1)) := by
  obtain ⟨q, hPq, hq, hh⟩ := c.exists_hit P
  rw [next_eq]
  exact c.loop_spec _ P ⟨q, hPq, by omega, hh⟩

theorem next_orbit_sel (P : Nat) :
    ∃ i s', next c.ws (c.o P) = (.sel i, s') ∧ i < c.ws.length ∧ 0 < c.ws.getD i 0 := by
  obtain ⟨q, -, hq, h⟩ := c.next_spec P
  exact ⟨_, _, h, Nat.mod_lt _ c.n_pos, c.hit_pos hq⟩

end Ctx
end RR
