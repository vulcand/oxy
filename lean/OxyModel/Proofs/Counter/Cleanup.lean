import OxyModel.Model.Counter

/-! `RollingCounter.cleanup`, without Mathlib (`CBreaker/Metrics.lean` imports this and must stay free of it, see there).  Slots, the
slot → bucket map, and the loop in closed form (`cleanupLoop_spec`: which buckets it clears).  Hence cleaning up twice at one instant is
cleaning up once, and a counter and its clean-up read the same (`CEq`, `count_ceq`). -/
namespace RCnt

/-- the slot (number of whole resolutions since Go's zero Time) a clock reading falls into -/
def Cfg.slot (c : Cfg) (t : Nat) : Nat := t / c.r

/-- slot ↦ bucket index, i.e. `getBucket` on a truncated time -/
def Cfg.bmap (c : Cfg) (k : Nat) : Nat := ((k * c.r - unixEpochNs) / c.r) % c.n

theorem getBucket_eq (c : Cfg) (t : Nat) : getBucket c t = c.bmap (c.slot t) := rfl

theorem getD_set_zero (l : List Int) (a b : Nat) :
    (l.set a 0).getD b 0 = if a = b then 0 else l.getD b 0 := by
  simp only [List.getD_eq_getElem?_getD, List.getElem?_set]
  by_cases h : a = b
  · simp only [h, if_true]; split <;> rfl
  · simp only [h, if_false]

/-- lists of one length that read the same everywhere are the same -/
theorem ext_getD {l₁ l₂ : List Int} (hl : l₁.length = l₂.length) (h : ∀ b, l₁.getD b 0 = l₂.getD b 0) : l₁ = l₂ :=
  List.ext_getElem hl fun b h1 h2 => by
    have := h b
    rwa [List.getD_eq_getElem?_getD, List.getD_eq_getElem?_getD, List.getElem?_eq_getElem h1,
      List.getElem?_eq_getElem h2] at this

theorem slot_sub (c : Cfg) (now j : Nat) : c.slot (now - j * c.r) = c.slot now - j := by
  unfold Cfg.slot; rw [Nat.mul_comm]; exact Nat.sub_mul_div now c.r j

/-- also for `r = 0`, where both sides are `0 > 0` -/
theorem truncate_gt_iff (c : Cfg) (a b : Nat) : c.truncate a > c.truncate b ↔ c.slot a > c.slot b := by
  unfold Cfg.truncate Cfg.slot
  rcases Nat.eq_zero_or_pos c.r with h | h
  · rw [h, Nat.div_zero, Nat.div_zero]
  · exact Nat.mul_lt_mul_right h

theorem cleanupLoop_succ (c : Cfg) (lu now i fuel : Nat) (vals : List Int) :
    cleanupLoop c lu now i (fuel + 1) vals =
      if c.truncate (now - i * c.r) > c.truncate lu then
        cleanupLoop c lu now (i + 1) fuel (vals.set (getBucket c (now - i * c.r)) 0)
      else vals := rfl

/-- what the loop of `cleanup` clears when it has reached slot `k0` with `fuel` iterations left: the buckets
    of the slots newer than `lu` among the `fuel` slots up to `k0` -/
def Zeroed (c : Cfg) (lu k0 fuel b : Nat) : Prop :=
  ∃ k, c.slot lu < k ∧ k ≤ k0 ∧ k0 < k + fuel ∧ c.bmap k = b

theorem cleanupLoop_succ_slot (c : Cfg) (lu now i fuel : Nat) (vals : List Int) :
    cleanupLoop c lu now i (fuel + 1) vals =
      if c.slot now - i > c.slot lu then
        cleanupLoop c lu now (i + 1) fuel (vals.set (c.bmap (c.slot now - i)) 0)
      else vals := by
  rw [cleanupLoop_succ]
  simp only [getBucket_eq, truncate_gt_iff, slot_sub]

/-- iteration `i` works on slot `k0 = slot now - i` -/
theorem cleanupLoop_spec (c : Cfg) (lu now : Nat) : ∀ fuel i k0 (vals : List Int),
    c.slot now = k0 + i →
    (cleanupLoop c lu now i fuel vals).length = vals.length ∧
    ∀ b, (Zeroed c lu k0 fuel b → (cleanupLoop c lu now i fuel vals).getD b 0 = 0) ∧
         (¬ Zeroed c lu k0 fuel b → (cleanupLoop c lu now i fuel vals).getD b 0 = vals.getD b 0) := by
  intro fuel
  induction fuel with
  | zero =>
    intro i k0 vals _
    exact ⟨rfl, fun b => ⟨fun ⟨k, _, h2, h3, _⟩ => absurd (Nat.lt_of_lt_of_le h3 h2) (Nat.lt_irrefl _),
      fun _ => rfl⟩⟩
  | succ fuel ih =>
    intro i k0 vals hk
    rw [cleanupLoop_succ_slot c, hk, Nat.add_sub_cancel]
    by_cases hc : k0 > c.slot lu
    · -- this iteration clears the bucket of slot `k0`, the rest of the loop those of the older slots
      rw [if_pos hc]
      obtain ⟨k1, rfl⟩ := Nat.exists_eq_succ_of_ne_zero (Nat.ne_of_gt (Nat.zero_lt_of_lt hc))
      obtain ⟨hl, hv⟩ := ih (i + 1) k1 (vals.set (c.bmap (k1 + 1)) 0) (by rw [hk]; exact Nat.succ_add_eq_add_succ k1 i)
      refine ⟨by rw [hl, List.length_set], fun b => ?_⟩
      have hz : Zeroed c lu (k1 + 1) (fuel + 1) b ↔ (c.bmap (k1 + 1) = b ∨ Zeroed c lu k1 fuel b) := by
        constructor
        · rintro ⟨k, a1, a2, a3, a4⟩
          by_cases hk : k = k1 + 1
          · exact Or.inl (hk ▸ a4)
          · exact Or.inr ⟨k, a1, Nat.le_of_lt_succ (Nat.lt_of_le_of_ne a2 hk), Nat.lt_of_succ_lt_succ a3, a4⟩
        · rintro (h | ⟨k, a1, a2, a3, a4⟩)
          · exact ⟨k1 + 1, hc, Nat.le_refl _, Nat.lt_add_of_pos_right (Nat.succ_pos _), h⟩
          · exact ⟨k, a1, Nat.le_succ_of_le a2, Nat.succ_lt_succ a3, a4⟩
      by_cases hE : Zeroed c lu k1 fuel b
      · exact ⟨fun _ => (hv b).1 hE, fun hn => absurd (hz.mpr (Or.inr hE)) hn⟩
      · rw [(hv b).2 hE, getD_set_zero]
        by_cases hb : c.bmap (k1 + 1) = b
        · rw [if_pos hb]; exact ⟨fun _ => rfl, fun hn => absurd (hz.mpr (Or.inl hb)) hn⟩
        · rw [if_neg hb]; exact ⟨fun h => absurd (hz.mp h) (not_or.mpr ⟨hb, hE⟩), fun _ => rfl⟩
    · -- `break`: every slot from `k0` back is no newer than `lu`
      rw [if_neg hc]
      exact ⟨rfl, fun b => ⟨fun ⟨k, a1, a2, _, _⟩ => absurd (Nat.lt_of_lt_of_le a1 a2) hc, fun _ => rfl⟩⟩

/-- the second clean-up clears the same buckets (`cleanup` leaves `lu` alone), and they are clear already -/
theorem cleanup_idem (c : Cfg) (s : St) (now : Nat) : cleanup c (cleanup c s now) now = cleanup c s now := by
  obtain ⟨hl, hv⟩ := cleanupLoop_spec c s.lu now c.n 0 (c.slot now) (cleanup c s now).vals rfl
  obtain ⟨_, hv'⟩ := cleanupLoop_spec c s.lu now c.n 0 (c.slot now) s.vals rfl
  refine congrArg (fun v => { s with vals := v }) (ext_getD hl fun b => ?_)
  by_cases hz : Zeroed c s.lu (c.slot now) c.n b
  · rw [(hv b).1 hz]; exact ((hv' b).1 hz).symm
  · exact (hv b).2 hz

theorem count_reset (c : Cfg) (s : St) (now : Nat) : (count c (reset s) now).2 = 0 := by
  obtain ⟨hl, hv⟩ := cleanupLoop_spec c 0 now c.n 0 (c.slot now) (List.replicate s.vals.length 0) rfl
  have : cleanupLoop c 0 now 0 c.n (List.replicate s.vals.length 0) = List.replicate s.vals.length 0 :=
    ext_getD hl fun b => by
      by_cases hz : Zeroed c 0 (c.slot now) c.n b
      · rw [(hv b).1 hz, List.getD_eq_getElem?_getD, List.getElem?_replicate]; split <;> rfl
      · exact (hv b).2 hz
  show (cleanupLoop c 0 now 0 c.n (List.replicate s.vals.length 0)).sum = 0
  rw [this, List.sum_replicate_int, Int.mul_zero]

/-- `s'` is `s`, possibly cleaned up at `now` -/
def CEq (c : Cfg) (now : Nat) (s s' : St) : Prop := s' = s ∨ s' = cleanup c s now

theorem CEq.refl (c : Cfg) (now : Nat) (s : St) : CEq c now s s := Or.inl rfl

theorem count_ceq {c : Cfg} {now : Nat} {s s' : St} (h : CEq c now s s') : count c s' now = count c s now := by
  rcases h with h | h
  · rw [h]
  · rw [h]; unfold count; simp only [cleanup_idem]

theorem count_fst_ceq (c : Cfg) (now : Nat) (s : St) : CEq c now s (count c s now).1 := Or.inr rfl

theorem CEq.count {c : Cfg} {now : Nat} {s s' : St} (h : CEq c now s s') : CEq c now s (count c s' now).1 := by
  rcases h with rfl | rfl
  · exact Or.inr rfl
  · exact Or.inr (cleanup_idem c s now)

end RCnt
