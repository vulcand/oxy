import OxyModel.Proofs.Counter.Basic

/-! C17: the representation invariant `Inv` (the bucket of every slot of the current window holds the
increments logged in that slot), kept by `cleanup` and `inc` for any slot → bucket map of the form "slot number
minus a constant, mod `n`" (`Good`), and `count_exact`. -/
namespace RCnt
open Finset

/-- the slot → bucket map is "slot number minus `off`, mod `n`" from slot `off` on; for the code's map `off` is
    `Cfg.off` (`History.lean`) -/
structure Good (c : Cfg) (off : Nat) : Prop where
  n_pos : 0 < c.n
  r_pos : 0 < c.r
  bmap_eq : ∀ k, off ≤ k → c.bmap k = (k - off) % c.n

theorem slot_mono (c : Cfg) {a b : Nat} (h : a ≤ b) : c.slot a ≤ c.slot b :=
  Nat.div_le_div_right h

theorem mod_ne_of_lt (n a b : Nat) (h1 : a < b) (h2 : b < a + n) : a % n ≠ b % n := by
  intro h
  have h0 : (b - a) % n = 0 := Nat.sub_mod_eq_zero_of_mod_eq h.symm
  rw [Nat.mod_eq_of_lt (by omega)] at h0
  omega

theorem bmap_ne {c : Cfg} {off : Nat} (g : Good c off) {k k' : Nat} (hk : off ≤ k) (h1 : k < k')
    (h2 : k' < k + c.n) : c.bmap k ≠ c.bmap k' := by
  rw [g.bmap_eq k hk, g.bmap_eq k' (by omega)]
  exact mod_ne_of_lt c.n (k - off) (k' - off) (by omega) (by omega)

/-- representation invariant at "last operation time" `tc` with ghost log `log`.  Two clocks: `tc` moves with
    every clean-up (reads too), `s.lu` only with `inc`; the log is bounded by `lu`, the window is placed at `tc` -/
def Inv (c : Cfg) (off : Nat) (s : St) (tc : Nat) (log : Log) : Prop :=
  s.vals.length = c.n ∧ s.lu ≤ tc ∧ (∀ p ∈ log, p.1 ≤ s.lu) ∧
  ∀ k, off ≤ k → k ≤ c.slot tc → c.slot tc < k + c.n → s.vals.getD (c.bmap k) 0 = sig c log k

theorem Inv.length {c : Cfg} {off : Nat} {s : St} {tc : Nat} {log : Log} (h : Inv c off s tc log) :
    s.vals.length = c.n := h.1

theorem Inv.lu_le {c : Cfg} {off : Nat} {s : St} {tc : Nat} {log : Log} (h : Inv c off s tc log) : s.lu ≤ tc :=
  h.2.1

theorem Inv.log_le {c : Cfg} {off : Nat} {s : St} {tc : Nat} {log : Log} (h : Inv c off s tc log) :
    ∀ p ∈ log, p.1 ≤ s.lu := h.2.2.1

theorem sig_zero_of_gt (c : Cfg) (log : Log) (lu k : Nat) (h : ∀ p ∈ log, p.1 ≤ lu)
    (hk : c.slot lu < k) : sig c log k = 0 :=
  sumIf_none (p := fun u => c.slot u = k) log fun p hp =>
    Nat.ne_of_lt (Nat.lt_of_le_of_lt (slot_mono c (h p hp)) hk)

theorem inv_init (c : Cfg) (off tc : Nat) : Inv c off (St.init c) tc [] := by
  refine ⟨List.length_replicate, Nat.zero_le _, nofun, fun k _ _ _ => ?_⟩
  show (List.replicate c.n (0 : Int)).getD (c.bmap k) 0 = 0
  rw [List.getD_eq_getElem?_getD, List.getElem?_replicate]
  split <;> rfl

theorem reset_eq_init (c : Cfg) (s : St) (hl : s.vals.length = c.n) : reset s = St.init c := by
  unfold reset St.init
  rw [hl]

theorem cleanup_inv {c : Cfg} {off : Nat} (g : Good c off) {s : St} {tc : Nat} {log : Log}
    (h : Inv c off s tc log) {now : Nat} (hnow : tc ≤ now) : Inv c off (cleanup c s now) now log := by
  obtain ⟨hlen, hlu, hlog, hv⟩ := h
  obtain ⟨hl, hs⟩ := cleanupLoop_spec c s.lu now c.n 0 (c.slot now) s.vals rfl
  refine ⟨by simp only [cleanup]; rw [hl, hlen], Nat.le_trans hlu hnow, hlog, ?_⟩
  intro k hk1 hk2 hk3
  simp only [cleanup]
  by_cases hkl : c.slot s.lu < k
  · -- a slot newer than the last update: cleared, and nothing was logged in it
    rw [(hs _).1 ⟨k, hkl, hk2, hk3, rfl⟩, sig_zero_of_gt c log s.lu k hlog hkl]
  · -- an older slot of the window keeps its bucket: no newer slot of the window shares it
    have hk : k ≤ c.slot s.lu := Nat.le_of_not_lt hkl
    have : ¬ Zeroed c s.lu (c.slot now) c.n (c.bmap k) := by
      rintro ⟨k', a1, a2, _, a4⟩
      exact bmap_ne g hk1 (Nat.lt_of_le_of_lt hk a1) (Nat.lt_of_le_of_lt a2 hk3) a4.symm
    rw [(hs _).2 this]
    exact hv k hk1 (Nat.le_trans hk (slot_mono c hlu)) (Nat.lt_of_le_of_lt (slot_mono c hnow) hk3)

theorem inc_inv {c : Cfg} {off : Nat} (g : Good c off) {s : St} {tc : Nat} {log : Log}
    (h : Inv c off s tc log) {now : Nat} (hnow : tc ≤ now) (hoff : off ≤ c.slot now) (v : Int) :
    Inv c off (inc c s now v) now ((now, v) :: log) := by
  obtain ⟨hlen, hlu, hlog, hv⟩ := cleanup_inv g h hnow
  have hb0 : c.bmap (c.slot now) < c.n := by
    rw [g.bmap_eq _ hoff]; exact Nat.mod_lt _ g.n_pos
  refine ⟨?_, Nat.le_refl _, ?_, ?_⟩
  · simp only [inc]; rw [List.length_set]; exact hlen
  · intro p hp
    simp only [inc]
    rcases List.mem_cons.mp hp with rfl | hp
    · exact Nat.le_refl _
    · exact Nat.le_trans (hlog p hp) hlu
  · intro k hk1 hk2 hk3
    simp only [inc, getBucket_eq]
    rw [sig_cons]
    by_cases hk : k = c.slot now
    · subst hk
      rw [getD_set_self _ _ _ (by rw [hlen]; exact hb0), hv _ hk1 hk2 hk3, if_pos rfl, Int.add_comm]
    · have hne : c.bmap (c.slot now) ≠ c.bmap k :=
        (bmap_ne g hk1 (Nat.lt_of_le_of_ne hk2 hk) hk3).symm
      rw [getD_set_other _ _ _ _ hne, hv k hk1 hk2 hk3]
      rw [if_neg (Ne.symm hk), Int.zero_add]

/-- **C17 (core)**: a read returns exactly the increments of the last `n` slots -/
theorem count_exact {c : Cfg} {off : Nat} (g : Good c off) {s : St} {tc : Nat} {log : Log}
    (h : Inv c off s tc log) {now : Nat} (hnow : tc ≤ now) (hoff : off + c.n ≤ c.slot now + 1) :
    (count c s now).2 = windowSum c log now := by
  obtain ⟨hlen, _, _, hv⟩ := cleanup_inv g h hnow
  simp only [count]
  rw [sum_eq_sum_range, hlen]
  -- the window is the slots `off + d + j`, `j < n`; their buckets are `(d + j) % n`: all of them, rotated
  obtain ⟨d, hd⟩ := Nat.exists_eq_add_of_le hoff
  rw [Nat.add_right_comm] at hd
  rw [← sum_rot (fun b => (cleanup c s now).vals.getD b 0) c.n d]
  have e1 : ∀ j ∈ range c.n, (cleanup c s now).vals.getD ((d + j) % c.n) 0 = sig c log (off + d + j) := by
    intro j hj
    have hj' := Finset.mem_range.mp hj
    have hoj : off ≤ off + d + j := Nat.le_trans (Nat.le_add_right _ _) (Nat.le_add_right _ _)
    have hw : off + d + j ≤ c.slot now ∧ c.slot now < off + d + j + c.n := by omega
    rw [← hv (off + d + j) hoj hw.1 hw.2, g.bmap_eq _ hoj, Nat.add_assoc, Nat.add_sub_cancel_left]
  rw [Finset.sum_congr rfl e1, sum_sig_window]
  show _ = sumIf (fun u => c.slot now < c.slot u + c.n ∧ c.slot u ≤ c.slot now) log
  exact sumIf_congr log fun e _ => by omega

end RCnt
