import OxyModel.Proofs.Counter.Inv

/-! C17: the bucket map of the code satisfies `Good` at `Cfg.off`; `Holds` (a counter has counted a log: `Inv` at
its last operation) is kept by every operation, hence (`foldl_timed`) by every history with non-decreasing time
stamps. -/
namespace RCnt

/-- first slot that starts at or after 1970-01-01: `⌈unixEpochNs / r⌉` -/
def Cfg.off (c : Cfg) : Nat := (unixEpochNs + c.r - 1) / c.r

theorem off_mul_le (c : Cfg) : c.off * c.r ≤ unixEpochNs + c.r - 1 := Nat.div_mul_le_self _ _

theorem le_off_mul (c : Cfg) (hr : 0 < c.r) : unixEpochNs ≤ c.off * c.r := by
  have := Nat.lt_div_mul_add (a := unixEpochNs + c.r - 1) hr
  unfold Cfg.off; omega

theorem off_mul_sub_lt (c : Cfg) (hr : 0 < c.r) : c.off * c.r - unixEpochNs < c.r := by
  have := off_mul_le c
  omega

theorem bmap_off (c : Cfg) (hr : 0 < c.r) (k : Nat) (hk : c.off ≤ k) :
    c.bmap k = (k - c.off) % c.n := by
  obtain ⟨d, rfl⟩ := Nat.exists_eq_add_of_le hk
  unfold Cfg.bmap
  rw [Nat.add_mul, Nat.sub_add_comm (le_off_mul c hr), Nat.add_mul_div_right _ _ hr,
    Nat.div_eq_of_lt (off_mul_sub_lt c hr), Nat.zero_add, Nat.add_sub_cancel_left]

theorem good_off (c : Cfg) (hn : 0 < c.n) (hr : 0 < c.r) : Good c c.off :=
  ⟨hn, hr, bmap_off c hr⟩

theorem off_add_le_slot (c : Cfg) (hn : 0 < c.n) (hr : 0 < c.r) {t : Nat}
    (ht : unixEpochNs + c.n * c.r ≤ t) : c.off + c.n ≤ c.slot t + 1 := by
  obtain ⟨m, hm⟩ := Nat.exists_eq_succ_of_ne_zero (Nat.ne_of_gt hn)
  have h1 := off_mul_le c
  -- slot `off + n - 1` starts before `1970 + n·r`
  have h2 : (c.off + m) * c.r ≤ t := by
    rw [Nat.add_mul]; rw [hm, Nat.succ_mul] at ht; omega
  rw [hm]
  exact Nat.succ_le_succ ((Nat.le_div_iff_mul_le hr).mpr h2)

def stepLog (log : Log) (t : Nat) : Ev → Log
  | .inc v => (t, v) :: log
  | .read => log
  | .reset => []

/-- the increments (time, value) made since the last `Reset` -/
def incs (h : List (Nat × Ev)) : Log := h.foldl (fun l e => stepLog l e.1 e.2) []

/-- for a log step `g` that only adds `(t, v)` on the increment `mk v` (and otherwise keeps or drops entries):
    whatever the folded log holds was in the initial log or is an increment of the history -/
theorem mem_foldl_log {ε : Type} (g : Log → Nat → ε → Log) (mk : Int → ε)
    (hg : ∀ l t e p, p ∈ g l t e → p ∈ l ∨ (p.1 = t ∧ e = mk p.2)) (h : List (Nat × ε)) :
    ∀ (l : Log) (p : Nat × Int),
      p ∈ h.foldl (fun l e => g l e.1 e.2) l → p ∈ l ∨ (p.1, mk p.2) ∈ h := by
  induction h with
  | nil => intro l p hp; exact Or.inl hp
  | cons e h ih =>
    intro l p hp
    rcases ih _ p hp with h1 | h1
    · rcases hg l e.1 e.2 p h1 with h2 | ⟨h2, h3⟩
      · exact Or.inl h2
      · exact Or.inr (by rw [h2, ← h3]; exact List.mem_cons_self)
    · exact Or.inr (List.mem_cons_of_mem _ h1)

theorem mem_stepLog (l : Log) (t : Nat) (e : Ev) (p : Nat × Int) (hp : p ∈ stepLog l t e) :
    p ∈ l ∨ (p.1 = t ∧ e = .inc p.2) := by
  cases e with
  | inc v =>
    rcases List.mem_cons.mp hp with rfl | hp
    · exact Or.inr ⟨rfl, rfl⟩
    · exact Or.inl hp
  | read => exact Or.inl hp
  | reset => cases hp

theorem mem_incs {h : List (Nat × Ev)} {p : Nat × Int} (hp : p ∈ incs h) : (p.1, Ev.inc p.2) ∈ h :=
  (mem_foldl_log stepLog Ev.inc mem_stepLog h [] p hp).resolve_left List.not_mem_nil

/-- the counter `s` has counted exactly `log` and was last touched no later than `T` (`Inv` holds at the
    instant of that last operation; what the proofs about histories carry from event to event) -/
def Holds (c : Cfg) (s : St) (T : Nat) (log : Log) : Prop :=
  ∃ tc, tc ≤ T ∧ Inv c c.off s tc log

theorem Holds.init (c : Cfg) (T : Nat) : Holds c (St.init c) T [] :=
  ⟨0, Nat.zero_le _, inv_init c c.off 0⟩

theorem Holds.mono {c : Cfg} {s : St} {T T' : Nat} {log : Log} (h : Holds c s T log)
    (hT : T ≤ T') : Holds c s T' log :=
  let ⟨tc, h1, h2⟩ := h; ⟨tc, Nat.le_trans h1 hT, h2⟩

theorem Holds.cleanup {c : Cfg} (g : Good c c.off) {s : St} {T : Nat} {log : Log}
    (h : Holds c s T log) {now : Nat} (hT : T ≤ now) : Holds c (cleanup c s now) now log :=
  let ⟨_, h1, h2⟩ := h; ⟨now, Nat.le_refl _, cleanup_inv g h2 (Nat.le_trans h1 hT)⟩

theorem Holds.inc {c : Cfg} (g : Good c c.off) {s : St} {T : Nat} {log : Log}
    (h : Holds c s T log) {now : Nat} (hT : T ≤ now) (h70 : unixEpochNs + c.n * c.r ≤ now) (v : Int) :
    Holds c (inc c s now v) now ((now, v) :: log) :=
  let ⟨_, h1, h2⟩ := h
  have hwin : c.off + c.n ≤ c.slot now + 1 := off_add_le_slot c g.n_pos g.r_pos h70
  have hn : 0 < c.n := g.n_pos
  ⟨now, Nat.le_refl _, inc_inv g h2 (Nat.le_trans h1 hT) (by omega) v⟩

theorem Holds.reset {c : Cfg} {s : St} {T : Nat} {log : Log} (h : Holds c s T log)
    (now : Nat) : Holds c (reset s) now [] :=
  let ⟨_, _, h2⟩ := h; ⟨now, Nat.le_refl _, reset_eq_init c s h2.length ▸ inv_init c c.off now⟩

theorem Holds.step {c : Cfg} (g : Good c c.off) {s : St} {T : Nat} {log : Log}
    (h : Holds c s T log) {t : Nat} (hT : T ≤ t) (h70 : unixEpochNs + c.n * c.r ≤ t) (ev : Ev) :
    Holds c (step c s t ev) t (stepLog log t ev) := by
  cases ev with
  | inc v => exact h.inc g hT h70 v
  | read => exact h.cleanup g hT
  | reset => exact h.reset t

theorem Holds.count {c : Cfg} (g : Good c c.off) {s : St} {T : Nat} {log : Log}
    (h : Holds c s T log) {now : Nat} (hT : T ≤ now) (h70 : unixEpochNs + c.n * c.r ≤ now) :
    (count c s now).2 = sumIf (fun u => now / c.r < u / c.r + c.n) log := by
  obtain ⟨tc, h1, h2⟩ := h
  have htc := Nat.le_trans h1 hT
  rw [count_exact g h2 htc (off_add_le_slot c g.n_pos g.r_pos h70)]
  exact windowSum_eq_sumIf c log now fun e he => Nat.le_trans (h2.log_le e he) (Nat.le_trans h2.lu_le htc)

/-- an invariant `I state T log`, monotone in `T`, that every event at an instant `t ≥ T` satisfying `P`
    re-establishes at `t`, holds at every `now` after a history with non-decreasing time stamps -/
theorem foldl_timed {σ ε L : Type} {I : σ → Nat → L → Prop} {P : Nat → Prop}
    {f : σ → Nat → ε → σ} {g : L → Nat → ε → L}
    (hstep : ∀ {s T l t}, I s T l → T ≤ t → P t → ∀ e, I (f s t e) t (g l t e))
    (hmono : ∀ {s T T' l}, I s T l → T ≤ T' → I s T' l) (now : Nat) (h : List (Nat × ε)) {s : σ} {l : L}
    (h0 : I s 0 l) (hs : List.Pairwise (· ≤ ·) (h.map Prod.fst)) (hP : ∀ t ∈ h.map Prod.fst, P t)
    (hb : ∀ t ∈ h.map Prod.fst, t ≤ now) :
    I (h.foldl (fun s e => f s e.1 e.2) s) now (h.foldl (fun l e => g l e.1 e.2) l) := by
  suffices ∀ (h : List (Nat × ε)) (s : σ) (T : Nat) (l : L), I s T l →
      List.Pairwise (· ≤ ·) (T :: h.map Prod.fst) → (∀ t ∈ h.map Prod.fst, P t) → T ≤ now →
      (∀ t ∈ h.map Prod.fst, t ≤ now) →
      I (h.foldl (fun s e => f s e.1 e.2) s) now (h.foldl (fun l e => g l e.1 e.2) l) from
    this h s 0 l h0 (List.pairwise_cons.mpr ⟨fun _ _ => Nat.zero_le _, hs⟩) hP (Nat.zero_le _) hb
  intro h
  induction h with
  | nil => intro s T l hi _ _ hn _; exact hmono hi hn
  | cons e h ih =>
    intro s T l hi hp ho _ hb
    rw [List.map_cons] at hp ho hb
    rw [List.pairwise_cons] at hp
    exact ih _ e.1 _ (hstep hi (hp.1 _ List.mem_cons_self) (ho _ List.mem_cons_self) e.2) hp.2
      (fun x hx => ho x (List.mem_cons_of_mem _ hx)) (hb _ List.mem_cons_self)
      (fun x hx => hb x (List.mem_cons_of_mem _ hx))

/-- **every history**: the counter has counted the increments made since the last reset -/
theorem run_holds {c : Cfg} (g : Good c c.off) (h : List (Nat × Ev)) (now : Nat)
    (hs : List.Pairwise (· ≤ ·) (h.map Prod.fst)) (h70 : ∀ t ∈ h.map Prod.fst, unixEpochNs + c.n * c.r ≤ t)
    (hb : ∀ t ∈ h.map Prod.fst, t ≤ now) : Holds c (run c h) now (incs h) :=
  foldl_timed (I := Holds c) (P := fun t => unixEpochNs + c.n * c.r ≤ t) (fun hi ht hp e => hi.step g ht hp e)
    Holds.mono now h (Holds.init c 0) hs h70 hb

end RCnt
