import OxyModel.Proofs.Counter.History

/-! C17: a live counter and a `Clone()` of it, driven by an arbitrarily interleaved history.  The interleaving
is projected onto the live counter (`liveHist`), which is then a plain history; for the snapshot a pair of ghost
logs (`stepLogs`) is carried through `foldl_timed`. -/
namespace RCnt

/-- what the live counter itself went through: its own events, and a read for every `Clone()`
    (`Clone` starts with `cleanup`); events on the snapshot are dropped -/
def liveHist : List (Nat × DEv) → List (Nat × Ev)
  | [] => []
  | (t, .live e) :: h => (t, e) :: liveHist h
  | (t, .clone) :: h => (t, .read) :: liveHist h
  | (_, .snap _) :: h => liveHist h

theorem foldl_live (c : Cfg) : ∀ (h : List (Nat × DEv)) (d : Duo),
    (h.foldl (fun d e => d.step c e.1 e.2) d).live
      = (liveHist h).foldl (fun s e => step c s e.1 e.2) d.live := by
  intro h
  induction h with
  | nil => intro d; rfl
  | cons e h ih =>
    intro d
    obtain ⟨t, ev⟩ := e
    cases ev with
    | live e => rw [List.foldl_cons, ih]; rfl
    | clone => rw [List.foldl_cons, ih]; rfl
    | snap e => rw [List.foldl_cons, ih]; rfl

theorem run_live (c : Cfg) (h : List (Nat × DEv)) : (Duo.run c h).live = run c (liveHist h) :=
  foldl_live c h (Duo.init c)

theorem liveHist_sublist : ∀ h : List (Nat × DEv), ((liveHist h).map Prod.fst).Sublist (h.map Prod.fst) := by
  intro h
  induction h with
  | nil => exact List.Sublist.slnil
  | cons e h ih =>
    obtain ⟨t, ev⟩ := e
    cases ev with
    | live e => exact List.Sublist.cons_cons _ ih
    | clone => exact List.Sublist.cons_cons _ ih
    | snap e => exact List.Sublist.cons _ ih

/-! ghost logs: (increments of the live counter since its last reset, increments the snapshot holds:
the live log at `Clone()` time plus its own since) -/

def stepLogs (l : Log × Log) (t : Nat) : DEv → Log × Log
  | .live e => (stepLog l.1 t e, l.2)
  | .clone => (l.1, l.1)
  | .snap e => (l.1, stepLog l.2 t e)

/-- the increments a snapshot holds: those of the live counter (since its last reset) up to the
    latest `Clone()`, then the snapshot's own (since its own last reset) -/
def snapIncs (h : List (Nat × DEv)) : Log := (h.foldl (fun l e => stepLogs l e.1 e.2) ([], [])).2

/-- the live counter has counted the first log, the snapshot (if taken) the second -/
def DHolds (c : Cfg) (d : Duo) (T : Nat) (l : Log × Log) : Prop :=
  Holds c d.live T l.1 ∧ ∀ s, d.snap = some s → Holds c s T l.2

theorem DHolds.step {c : Cfg} (g : Good c c.off) {d : Duo} {T : Nat} {l : Log × Log}
    (h : DHolds c d T l) {t : Nat} (hT : T ≤ t) (h70 : unixEpochNs + c.n * c.r ≤ t) (ev : DEv) :
    DHolds c (d.step c t ev) t (stepLogs l t ev) := by
  obtain ⟨ha, hs⟩ := h
  cases ev with
  | live e => exact ⟨ha.step g hT h70 e, fun s hs' => (hs s hs').mono hT⟩
  | clone =>
    -- the copy has the cleaned-up receiver's buckets and time stamp; `Inv` does not read `counted`
    have hc := ha.cleanup g hT
    refine ⟨hc, fun s hs' => ?_⟩
    obtain rfl := Option.some.inj hs'
    exact hc
  | snap e =>
    refine ⟨ha.mono hT, fun s hs' => ?_⟩
    obtain ⟨s0, hd, rfl⟩ := Option.map_eq_some_iff.mp hs'
    exact (hs s0 hd).step g hT h70 e

/-- the second log is `snapIncs h`, the only one read afterwards; the first is carried for the `clone` step -/
theorem Duo.run_holds {c : Cfg} (g : Good c c.off) (h : List (Nat × DEv)) (now : Nat)
    (hs : List.Pairwise (· ≤ ·) (h.map Prod.fst)) (h70 : ∀ t ∈ h.map Prod.fst, unixEpochNs + c.n * c.r ≤ t)
    (hb : ∀ t ∈ h.map Prod.fst, t ≤ now) :
    DHolds c (Duo.run c h) now (h.foldl (fun l e => stepLogs l e.1 e.2) ([], [])) :=
  foldl_timed (I := DHolds c) (P := fun t => unixEpochNs + c.n * c.r ≤ t) (fun hi ht hp e => hi.step g ht hp e)
    (fun hi hT => ⟨hi.1.mono hT, fun s hs' => (hi.2 s hs').mono hT⟩) now h
    ⟨Holds.init c 0, nofun⟩ hs h70 hb

end RCnt
