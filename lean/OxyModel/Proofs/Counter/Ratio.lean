import OxyModel.Proofs.Counter.History

/-! C17: the two counters of a `RatioCounter` keep the invariant along every history. -/
namespace RCnt

def stepLogA (log : Log) (t : Nat) : REv → Log
  | .incA v => (t, v) :: log
  | .incB _ => log
  | .read => log
  | .reset => []

def stepLogB (log : Log) (t : Nat) : REv → Log
  | .incA _ => log
  | .incB v => (t, v) :: log
  | .read => log
  | .reset => []

/-- the `IncA` increments since the last `Reset` -/
def incsA (h : List (Nat × REv)) : Log := h.foldl (fun l e => stepLogA l e.1 e.2) []
/-- the `IncB` increments since the last `Reset` -/
def incsB (h : List (Nat × REv)) : Log := h.foldl (fun l e => stepLogB l e.1 e.2) []

theorem mem_stepLogA (l : Log) (t : Nat) (e : REv) (p : Nat × Int) (hp : p ∈ stepLogA l t e) :
    p ∈ l ∨ (p.1 = t ∧ e = .incA p.2) := by
  cases e with
  | incA v =>
    rcases List.mem_cons.mp hp with rfl | hp
    · exact Or.inr ⟨rfl, rfl⟩
    · exact Or.inl hp
  | incB v => exact Or.inl hp
  | read => exact Or.inl hp
  | reset => cases hp

theorem mem_stepLogB (l : Log) (t : Nat) (e : REv) (p : Nat × Int) (hp : p ∈ stepLogB l t e) :
    p ∈ l ∨ (p.1 = t ∧ e = .incB p.2) := by
  cases e with
  | incA v => exact Or.inl hp
  | incB v =>
    rcases List.mem_cons.mp hp with rfl | hp
    · exact Or.inr ⟨rfl, rfl⟩
    · exact Or.inl hp
  | read => exact Or.inl hp
  | reset => cases hp

theorem mem_incsA {h : List (Nat × REv)} {p : Nat × Int} (hp : p ∈ incsA h) : (p.1, REv.incA p.2) ∈ h :=
  (mem_foldl_log stepLogA REv.incA mem_stepLogA h [] p hp).resolve_left List.not_mem_nil

theorem mem_incsB {h : List (Nat × REv)} {p : Nat × Int} (hp : p ∈ incsB h) : (p.1, REv.incB p.2) ∈ h :=
  (mem_foldl_log stepLogB REv.incB mem_stepLogB h [] p hp).resolve_left List.not_mem_nil

theorem Ratio.step_a {c : Cfg} (g : Good c c.off) {s : Ratio} {T : Nat} {la : Log}
    (h : Holds c s.a T la) {t : Nat} (hT : T ≤ t) (h70 : unixEpochNs + c.n * c.r ≤ t) (ev : REv) :
    Holds c (s.step c t ev).a t (stepLogA la t ev) := by
  cases ev with
  | incA v => exact h.inc g hT h70 v
  | incB v => exact h.mono hT
  | read => exact h.cleanup g hT
  | reset => exact h.reset t

theorem Ratio.step_b {c : Cfg} (g : Good c c.off) {s : Ratio} {T : Nat} {lb : Log}
    (h : Holds c s.b T lb) {t : Nat} (hT : T ≤ t) (h70 : unixEpochNs + c.n * c.r ≤ t) (ev : REv) :
    Holds c (s.step c t ev).b t (stepLogB lb t ev) := by
  cases ev with
  | incA v => exact h.mono hT
  | incB v => exact h.inc g hT h70 v
  | read => exact h.cleanup g hT
  | reset => exact h.reset t

/-- **every history**: each of the two counters of a `RatioCounter` has counted its own increments since the
    last `Reset` -/
theorem Ratio.run_holds {c : Cfg} (g : Good c c.off) (h : List (Nat × REv)) (now : Nat)
    (hs : List.Pairwise (· ≤ ·) (h.map Prod.fst)) (h70 : ∀ t ∈ h.map Prod.fst, unixEpochNs + c.n * c.r ≤ t)
    (hb : ∀ t ∈ h.map Prod.fst, t ≤ now) :
    Holds c (Ratio.run c h).a now (incsA h) ∧ Holds c (Ratio.run c h).b now (incsB h) :=
  ⟨foldl_timed (I := fun (s : Ratio) T l => Holds c s.a T l) (P := fun t => unixEpochNs + c.n * c.r ≤ t)
      (fun hi ht hp e => Ratio.step_a g hi ht hp e) Holds.mono now h (Holds.init c 0) hs h70 hb,
    foldl_timed (I := fun (s : Ratio) T l => Holds c s.b T l) (P := fun t => unixEpochNs + c.n * c.r ≤ t)
      (fun hi ht hp e => Ratio.step_b g hi ht hp e) Holds.mono now h (Holds.init c 0) hs h70 hb⟩

end RCnt
