import OxyModel.Proofs.Counter.Cleanup
import Mathlib.Algebra.BigOperators.Fin

/-! C17: reading and summing the list of buckets, the ghost log of a counter's increments, and the sum of a window of
slots as a sum over the log (`sum_sig_window`).  Slots and the slot → bucket map are defined in `Cleanup.lean`. -/
namespace RCnt
open Finset

theorem getD_set_other (l : List Int) (a b : Nat) (x : Int) (h : a ≠ b) :
    (l.set a x).getD b 0 = l.getD b 0 := by
  simp only [List.getD_eq_getElem?_getD, List.getElem?_set, h, if_false]

theorem getD_set_self (l : List Int) (a : Nat) (x : Int) (h : a < l.length) :
    (l.set a x).getD a 0 = x := by
  simp only [List.getD_eq_getElem?_getD, List.getElem?_set, if_true, h]; rfl

theorem sum_eq_sum_range (l : List Int) : l.sum = ∑ b ∈ range l.length, l.getD b 0 := by
  have h1 : l.sum = (List.ofFn (fun i : Fin l.length => l.get i)).sum := by rw [List.ofFn_get]
  rw [h1, List.sum_ofFn, ← Fin.sum_univ_eq_sum_range (fun b => l.getD b 0) l.length]
  apply Finset.sum_congr rfl
  intro i _
  simp [List.getD_eq_getElem?_getD]

theorem sum_rot (f : Nat → Int) (n a : Nat) :
    ∑ j ∈ range n, f ((a + j) % n) = ∑ b ∈ range n, f b := by
  induction a with
  | zero =>
    apply Finset.sum_congr rfl
    intro j hj
    rw [Nat.zero_add, Nat.mod_eq_of_lt (Finset.mem_range.mp hj)]
  | succ a ih =>
    -- the sum over `0 … n`, split off at either end: the two end terms are the same residue
    have h1 := Finset.sum_range_succ (fun j => f ((a + j) % n)) n
    have h2 := Finset.sum_range_succ' (fun j => f ((a + j) % n)) n
    rw [h1, Nat.add_mod_right, Nat.add_zero] at h2
    rw [← ih, add_right_cancel h2]
    apply Finset.sum_congr rfl
    intro j _
    rw [Nat.add_assoc, Nat.add_comm 1 j]

/-- the increments `(time, value)` a counter has been given, newest first (a ghost) -/
abbrev Log := List (Nat × Int)

/-- sum of the increments recorded in slot `s` -/
def sig (c : Cfg) (log : Log) (s : Nat) : Int :=
  (log.map (fun p => if c.slot p.1 = s then p.2 else 0)).sum

/-- sum of the increments whose slot lies in the last `n` slots at time `now` -/
def windowSum (c : Cfg) (log : Log) (now : Nat) : Int :=
  (log.map (fun p => if c.slot now < c.slot p.1 + c.n ∧ c.slot p.1 ≤ c.slot now then p.2 else 0)).sum

theorem sig_cons (c : Cfg) (p : Nat × Int) (log : Log) (s : Nat) :
    sig c (p :: log) s = (if c.slot p.1 = s then p.2 else 0) + sig c log s := by
  simp [sig]

/-- sum of the logged increments whose time stamp satisfies `p` -/
def sumIf (p : Nat → Prop) [DecidablePred p] (log : Log) : Int :=
  (log.map fun e => if p e.1 then e.2 else 0).sum

theorem sumIf_cons (p : Nat → Prop) [DecidablePred p] (e : Nat × Int) (log : Log) :
    sumIf p (e :: log) = (if p e.1 then e.2 else 0) + sumIf p log := by
  simp [sumIf]

theorem sum_indicator (x s0 n : Nat) (v : Int) :
    ∑ j ∈ range n, (if x = s0 + j then v else 0) = if s0 ≤ x ∧ x < s0 + n then v else 0 := by
  by_cases hx : s0 ≤ x
  · obtain ⟨d, rfl⟩ := Nat.exists_eq_add_of_le hx
    have : d < n ↔ (s0 ≤ s0 + d ∧ s0 + d < s0 + n) := by omega
    simp only [Nat.add_left_cancel_iff, Finset.sum_ite_eq, Finset.mem_range, this]
  · rw [Finset.sum_eq_zero (fun j _ => if_neg (by omega)), if_neg (fun h => hx h.1)]

/-- the sums of `n` consecutive slots from `s0` on add up to the increments logged in these slots -/
theorem sum_sig_window (c : Cfg) (log : Log) (s0 : Nat) :
    ∑ j ∈ range c.n, sig c log (s0 + j) = sumIf (fun u => s0 ≤ c.slot u ∧ c.slot u < s0 + c.n) log := by
  induction log with
  | nil => simp [sig, sumIf]
  | cons p log ih =>
    simp only [sig_cons, Finset.sum_add_distrib, ih, sumIf_cons]
    congr 1
    exact sum_indicator (c.slot p.1) s0 c.n p.2

theorem sumIf_congr {p q : Nat → Prop} [DecidablePred p] [DecidablePred q] (log : Log)
    (h : ∀ e ∈ log, (p e.1 ↔ q e.1)) : sumIf p log = sumIf q log := by
  induction log with
  | nil => rfl
  | cons e log ih =>
    rw [sumIf_cons, sumIf_cons, ih (fun x hx => h x (List.mem_cons_of_mem _ hx))]
    have := h e List.mem_cons_self
    by_cases hp : p e.1
    · rw [if_pos hp, if_pos (this.mp hp)]
    · rw [if_neg hp, if_neg (fun hq => hp (this.mpr hq))]

theorem sumIf_mono {p q : Nat → Prop} [DecidablePred p] [DecidablePred q] (log : Log)
    (hv : ∀ e ∈ log, 0 ≤ e.2) (h : ∀ e ∈ log, p e.1 → q e.1) : sumIf p log ≤ sumIf q log := by
  induction log with
  | nil => exact Int.le_refl _
  | cons e log ih =>
    rw [sumIf_cons, sumIf_cons]
    refine Int.add_le_add ?_
      (ih (fun x hx => hv x (List.mem_cons_of_mem _ hx)) (fun x hx => h x (List.mem_cons_of_mem _ hx)))
    by_cases hp : p e.1
    · rw [if_pos hp, if_pos (h e List.mem_cons_self hp)]
    · rw [if_neg hp]
      split
      · exact hv e List.mem_cons_self
      · exact Int.le_refl _

theorem sumIf_none {p : Nat → Prop} [DecidablePred p] (log : Log) (h : ∀ e ∈ log, ¬ p e.1) :
    sumIf p log = 0 := by
  induction log with
  | nil => rfl
  | cons e log ih =>
    rw [sumIf_cons, ih (fun x hx => h x (List.mem_cons_of_mem _ hx)), if_neg (h e List.mem_cons_self)]
    rfl

theorem windowSum_eq_sumIf (c : Cfg) (log : Log) (now : Nat) (hb : ∀ e ∈ log, e.1 ≤ now) :
    windowSum c log now = sumIf (fun u => now / c.r < u / c.r + c.n) log := by
  have : windowSum c log now
      = sumIf (fun u => c.slot now < c.slot u + c.n ∧ c.slot u ≤ c.slot now) log := rfl
  rw [this]
  apply sumIf_congr
  intro e he
  have : c.slot e.1 ≤ c.slot now := Nat.div_le_div_right (hb e he)
  unfold Cfg.slot at *
  constructor
  · exact fun h => h.1
  · exact fun h => ⟨h, this⟩

/-- made within the last `(n-1)·r` ⇒ its slot is among the last `n` slots -/
theorem slot_of_recent (n r : Nat) (hn : 0 < n) (hr : 0 < r) {u now : Nat}
    (h : now ≤ u + (n - 1) * r) : now / r < u / r + n := by
  have h1 : now / r ≤ (u + (n - 1) * r) / r := Nat.div_le_div_right h
  rw [Nat.add_mul_div_right _ _ hr] at h1
  exact Nat.lt_of_le_of_lt h1 (Nat.add_lt_add_left (Nat.sub_lt hn Nat.one_pos) _)

/-- its slot is among the last `n` slots ⇒ made within the last `n·r` -/
theorem recent_of_slot (n r : Nat) (hr : 0 < r) {u now : Nat} (h : now / r < u / r + n) :
    now < u + n * r := by
  have h1 : now < (u / r + n) * r := (Nat.div_lt_iff_lt_mul hr).mp h
  rw [Nat.add_mul] at h1
  exact Nat.lt_of_lt_of_le h1 (Nat.add_le_add_right (Nat.div_mul_le_self u r) _)

/-- older than `n·r` ⇒ its slot is not among the last `n` slots -/
theorem not_slot_of_old (n r : Nat) (hr : 0 < r) {u now : Nat} (h : u + n * r ≤ now) :
    ¬ now / r < u / r + n :=
  fun hs => Nat.not_lt.mpr h (recent_of_slot n r hr hs)

end RCnt
