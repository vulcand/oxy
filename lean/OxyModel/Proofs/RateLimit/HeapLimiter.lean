import OxyModel.Proofs.RateLimit.HeapMap
import OxyModel.Proofs.RateLimit.Limiter

/-! The limiter over the map-with-heap: map and heap stay consistent along every history, so the victim the
modelled `container/heap` yields is always an entry of minimal expiry. -/
namespace RL
open TTL

/-- map and expiry heap of the limiter agree -/
def HCons (hl : HLimiter) : Prop := TTL.Cons hl.hmap

theorem serve_hmap (hl : HLimiter) (now : Nat) (src : String) (amount : Nat) (rr : List Rate) :
    (hl.serve now src amount rr).1.hmap =
      (hl.hmap.get src now).1.set src
        ((hl.base.current now src (hl.base.resolve rr)).consume now amount).1
        (ttlOf (hl.base.current now src (hl.base.resolve rr))) now := rfl

theorem serve_base (hl : HLimiter) (now : Nat) (src : String) (amount : Nat) (rr : List Rate) :
    (hl.serve now src amount rr).1.base = (hl.base.serve now src amount rr (hl.victimAt now src)).1 := rfl

theorem serve_resp_h (hl : HLimiter) (now : Nat) (src : String) (amount : Nat) (rr : List Rate) :
    (hl.serve now src amount rr).2 = (hl.base.serve now src amount rr (hl.victimAt now src)).2 := rfl

theorem consistent_serve (hl : HLimiter) (hc : HCons hl) (now : Nat) (src : String) (amount : Nat) (rr : List Rate) :
    HCons (hl.serve now src amount rr).1 := by
  unfold HCons
  rw [serve_hmap]
  exact set_consistent _ (get_consistent hl.hmap hc src now) _ _ _ _

theorem consistent_new (rates : List Rate) (capacity : Nat) : HCons (HLimiter.new rates capacity) :=
  empty_consistent _

theorem consistent_after (reqs : List (Nat × String × Nat × List Rate)) : ∀ (hl : HLimiter), HCons hl → HCons (hl.after reqs) := by
  induction reqs with
  | nil => intro hl h; exact h
  | cons r rs ih =>
    intro hl h
    obtain ⟨t, s, n, rr⟩ := r
    exact ih _ (consistent_serve hl h t s n rr)

theorem victimAt_isMin (hl : HLimiter) (hc : HCons hl) (now : Nat) (src : String)
    (hev : hl.base.evictsAt now src = true) :
    (hl.base.sets.get src now).1.isMin (hl.victimAt now src) = true :=
  victim_isMin (hl.hmap.get src now).1 (get_consistent hl.hmap hc src now) (evicts_ne_nil _ src hev)

end RL
