import OxyModel.Model.RateLimit

/-!
# Token bucket

`refill` in closed form (`refill_eq`) and what follows from it; the potential argument behind the window bound
(`steps_potential`, `steps_window_mul`) over abstract histories `Steps`; `consume` / `rollback` and the all-or-nothing
`consumeSet` in terms of the refilled bucket.
-/
namespace RL

theorem tptOf_pos (p a : Nat) : 0 < tptOf p a := by
  unfold tptOf; split <;> omega

theorem Bucket.WF.tpt_pos {b : Bucket} {t : Nat} (h : b.WF t) : 0 < b.tpt := h.1
theorem Bucket.WF.avail_le {b : Bucket} {t : Nat} (h : b.WF t) : b.avail ≤ b.burst := h.2.1
theorem Bucket.WF.lr_le {b : Bucket} {t : Nat} (h : b.WF t) : b.lr ≤ t := h.2.2

theorem Bucket.WF.mono {b : Bucket} {t0 t : Nat} (h : b.WF t0) (hle : t0 ≤ t) : b.WF t :=
  ⟨h.tpt_pos, h.avail_le, Nat.le_trans h.lr_le hle⟩

theorem refill_tpt_zero (b : Bucket) (now : Nat) (h : b.tpt = 0) : b.refill now = b := by
  unfold Bucket.refill; rw [if_pos h]

theorem refill_eq (b : Bucket) (now : Nat) (h : b.tpt ≠ 0) :
    b.refill now = { b with avail := min (b.avail + (now - b.lr) / b.tpt) b.burst,
                            lr := if (now - b.lr) / b.tpt = 0 then b.lr else now } := by
  unfold Bucket.refill
  rw [if_neg h]
  generalize (now - b.lr) / b.tpt = c
  by_cases hc : c = 0
  · subst hc
    by_cases h2 : b.avail ≤ b.burst
    · simp [Nat.min_eq_left h2, Nat.not_lt.mpr h2]
    · simp [Nat.min_eq_right (Nat.le_of_not_le h2), Nat.lt_of_not_le h2]
  · by_cases h2 : b.avail + c ≤ b.burst
    · simp [hc, Nat.min_eq_left h2, Nat.not_lt.mpr h2]
    · simp [hc, Nat.min_eq_right (Nat.le_of_not_le h2), Nat.lt_of_not_le h2]

theorem refill_frame (b : Bucket) (now : Nat) :
    b.refill now = { b with avail := (b.refill now).avail, lr := (b.refill now).lr } := by
  by_cases h : b.tpt = 0
  · rw [refill_tpt_zero b now h]
  · rw [refill_eq b now h]

@[simp] theorem refill_tpt (b : Bucket) (now : Nat) : (b.refill now).tpt = b.tpt := by rw [refill_frame]
@[simp] theorem refill_burst (b : Bucket) (now : Nat) : (b.refill now).burst = b.burst := by rw [refill_frame]
@[simp] theorem refill_period (b : Bucket) (now : Nat) : (b.refill now).period = b.period := by rw [refill_frame]
@[simp] theorem refill_lastConsumed (b : Bucket) (now : Nat) : (b.refill now).lastConsumed = b.lastConsumed := by
  rw [refill_frame]

theorem refill_set_lastConsumed (b : Bucket) (now x : Nat) :
    ({ b with lastConsumed := x } : Bucket).refill now = { b.refill now with lastConsumed := x } := by
  by_cases h : b.tpt = 0
  · rw [refill_tpt_zero b now h, refill_tpt_zero { b with lastConsumed := x } now h]
  · rw [refill_eq b now h, refill_eq { b with lastConsumed := x } now h]

theorem refill_mono (b : Bucket) (now : Nat) (hav : b.avail ≤ b.burst) :
    b.avail ≤ (b.refill now).avail ∧ (b.refill now).avail ≤ b.burst := by
  by_cases h : b.tpt = 0
  · rw [refill_tpt_zero b now h]; exact ⟨Nat.le_refl _, hav⟩
  · rw [refill_eq b now h]
    exact ⟨Nat.le_min.mpr ⟨Nat.le_add_right .., hav⟩, Nat.min_le_right ..⟩

/-- `c` is the number of tokens accrued -/
theorem refill_accrual (b : Bucket) (now : Nat) (h : b.WF now) :
    ∃ c, b.lr + b.tpt * c ≤ now ∧ now < b.lr + b.tpt * c + b.tpt ∧
      (b.refill now).avail = min (b.avail + c) b.burst ∧
      (b.refill now).lr = if c = 0 then b.lr else now := by
  have hlo : b.tpt * ((now - b.lr) / b.tpt) ≤ now - b.lr := Nat.mul_div_le _ _
  have hhi : now - b.lr < b.tpt * ((now - b.lr) / b.tpt) + b.tpt := Nat.lt_mul_div_succ _ h.tpt_pos
  have hlr := h.lr_le
  refine ⟨(now - b.lr) / b.tpt, by omega, by omega, ?_, ?_⟩
  · rw [refill_eq b now (Nat.ne_of_gt h.tpt_pos)]
  · rw [refill_eq b now (Nat.ne_of_gt h.tpt_pos)]

/-- what a refill does to a well-formed bucket; `lag` and `potential` carry the window bound -/
structure Refilled (b : Bucket) (now : Nat) : Prop where
  wf : (b.refill now).WF now
  lr_le : b.lr ≤ (b.refill now).lr
  /-- the refreshed stamp lags the clock by less than one token interval -/
  lag : now < (b.refill now).lr + b.tpt
  /-- the potential `tpt·avail − lr` does not grow -/
  potential : b.tpt * (b.refill now).avail + b.lr ≤ b.tpt * b.avail + (b.refill now).lr

theorem refilled {b : Bucket} {now : Nat} (h : b.WF now) : Refilled b now := by
  obtain ⟨c, h1, h2, ha, hl⟩ := refill_accrual b now h
  obtain ⟨htpt, hav, hlr⟩ := h
  suffices hs : (b.refill now).WF now ∧ b.lr ≤ (b.refill now).lr ∧ now < (b.refill now).lr + b.tpt ∧
      b.tpt * (b.refill now).avail + b.lr ≤ b.tpt * b.avail + (b.refill now).lr from ⟨hs.1, hs.2.1, hs.2.2.1, hs.2.2.2⟩
  unfold Bucket.WF
  rw [refill_tpt, refill_burst, ha, hl]
  rcases Nat.eq_zero_or_pos c with rfl | hc
  · rw [if_pos rfl, Nat.add_zero, Nat.min_eq_left hav]
    exact ⟨⟨htpt, hav, hlr⟩, Nat.le_refl _, h2, Nat.le_refl _⟩
  · -- at most `c` tokens are credited, and they are paid for by the time that moved the stamp
    have hm : b.tpt * min (b.avail + c) b.burst ≤ b.tpt * (b.avail + c) :=
      Nat.mul_le_mul_left _ (Nat.min_le_left ..)
    rw [Nat.mul_add] at hm
    rw [if_neg (Nat.ne_of_gt hc)]
    exact ⟨⟨htpt, Nat.min_le_right .., Nat.le_refl _⟩, hlr, Nat.lt_add_of_pos_right htpt, by omega⟩

theorem refill_spec (b : Bucket) (now : Nat) (h : b.WF now) :
    (b.refill now).tpt = b.tpt ∧ (b.refill now).burst = b.burst ∧
    (b.refill now).period = b.period ∧ (b.refill now).WF now ∧
    b.lr ≤ (b.refill now).lr ∧ now < (b.refill now).lr + b.tpt ∧
    b.tpt * (b.refill now).avail + b.lr ≤ b.tpt * b.avail + (b.refill now).lr :=
  have r := refilled h
  ⟨refill_tpt .., refill_burst .., refill_period .., r.wf, r.lr_le, r.lag, r.potential⟩

theorem accrued_ge {b : Bucket} {t0 now k : Nat} (h : b.WF t0) (hk : t0 + k * b.tpt ≤ now) :
    k ≤ (now - b.lr) / b.tpt := by
  have hlr := h.lr_le
  exact (Nat.le_div_iff_mul_le h.tpt_pos).mpr (by omega)

theorem refill_gains (b : Bucket) (t0 now k : Nat) (h : b.WF t0) (hk : t0 + k * b.tpt ≤ now) :
    min (b.avail + k) b.burst ≤ (b.refill now).avail := by
  rw [refill_eq b now (Nat.ne_of_gt h.tpt_pos)]
  exact Nat.le_min.mpr
    ⟨Nat.le_trans (Nat.min_le_left ..) (Nat.add_le_add_left (accrued_ge h hk) _), Nat.min_le_right ..⟩

theorem refill_idle (b : Bucket) (t0 now : Nat) (h : b.WF t0) (hb : 0 < b.burst) (hi : t0 + b.burst * b.tpt ≤ now) :
    b.refill now = { b with avail := b.burst, lr := now } := by
  have hc := accrued_ge h hi
  rw [refill_eq b now (Nat.ne_of_gt h.tpt_pos), Nat.min_eq_right (Nat.le_trans hc (Nat.le_add_left ..)),
    if_neg (Nat.ne_of_gt (Nat.lt_of_lt_of_le hb hc))]

theorem refill_eq_self {b : Bucket} {t : Nat} (h1 : (t - b.lr) / b.tpt = 0) (h2 : b.avail ≤ b.burst) :
    b.refill t = b := by
  by_cases h0 : b.tpt = 0
  · exact refill_tpt_zero b t h0
  · rw [refill_eq b t h0, h1, if_pos rfl, Nat.add_zero, Nat.min_eq_left h2]

/-- one operation on a bucket as seen from outside: refill at `now`, then `d` tokens leave -/
structure Step (b : Bucket) (now d : Nat) (b' : Bucket) : Prop where
  tpt_eq : b'.tpt = b.tpt
  burst_eq : b'.burst = b.burst
  lr_eq : b'.lr = (b.refill now).lr
  avail_eq : b'.avail + d = (b.refill now).avail

theorem step_spec {b b' : Bucket} {now d : Nat} (h : b.WF now) (s : Step b now d b') :
    b'.WF now ∧ b.tpt * (b'.avail + d) + b.lr ≤ b.tpt * b.avail + b'.lr := by
  have hwf := (refilled h).wf
  refine ⟨⟨s.tpt_eq ▸ h.tpt_pos, ?_, s.lr_eq ▸ hwf.lr_le⟩, ?_⟩
  · -- `b'.avail ≤ b'.avail + d`, the refilled bucket's tokens, which are within the burst
    rw [s.burst_eq, ← refill_burst b now]
    exact Nat.le_trans (Nat.le.intro s.avail_eq) hwf.avail_le
  · rw [s.lr_eq, s.avail_eq]
    exact (refilled h).potential

theorem Step.lr_le {b b' : Bucket} {now d : Nat} (h : b.WF now) (s : Step b now d b') : b.lr ≤ b'.lr :=
  s.lr_eq ▸ (refilled h).lr_le

/-- after a step the stamp lags the clock by less than one token interval -/
theorem Step.lag {b b' : Bucket} {now d : Nat} (h : b.WF now) (s : Step b now d b') : now < b'.lr + b.tpt :=
  s.lr_eq ▸ (refilled h).lag

/-- what is left and what left are together within the burst -/
theorem Step.within {b b' : Bucket} {now d : Nat} (h : b.WF now) (s : Step b now d b') : b'.avail + d ≤ b.burst :=
  s.avail_eq ▸ refill_burst b now ▸ (refilled h).wf.avail_le

/-- the stamp is the refilled bucket's, so nothing has accrued since, and there is nothing to cap -/
theorem Step.settled {b b' : Bucket} {t d : Nat} (s : Step b t d b') : b'.refill t = b' := by
  by_cases h0 : b.tpt = 0
  · exact refill_tpt_zero b' t (s.tpt_eq.trans h0)
  · have hl := s.lr_eq
    have ha := s.avail_eq
    rw [refill_eq b t h0] at hl ha
    refine refill_eq_self ?_ (s.burst_eq ▸ Nat.le_trans (Nat.le.intro ha) (Nat.min_le_right ..))
    rw [s.tpt_eq, hl]
    show (t - if (t - b.lr) / b.tpt = 0 then b.lr else t) / b.tpt = 0
    split
    · assumption
    · rw [Nat.sub_self, Nat.zero_div]

theorem refill_idem (b : Bucket) (now : Nat) : (b.refill now).refill now = b.refill now :=
  Step.settled (d := 0) ⟨refill_tpt b now, refill_burst b now, rfl, rfl⟩

theorem step_of_refill {b b' : Bucket} {t d : Nat} (s : Step b t d b') : Step (b.refill t) t d b' :=
  ⟨s.tpt_eq.trans (refill_tpt b t).symm, s.burst_eq.trans (refill_burst b t).symm,
    by rw [refill_idem]; exact s.lr_eq, by rw [refill_idem]; exact s.avail_eq⟩

/-- a history of operations on one bucket: times, tokens that left -/
inductive Steps : Bucket → List Nat → List Nat → Bucket → Prop where
  | nil (b) : Steps b [] [] b
  | cons {b b1 b2 : Bucket} {t d : Nat} {ts ds} :
      Step b t d b1 → Steps b1 ts ds b2 → Steps b (t :: ts) (d :: ds) b2

theorem Steps.length_eq {b b' : Bucket} {ts ds : List Nat} (h : Steps b ts ds b') : ts.length = ds.length := by
  induction h with
  | nil => rfl
  | cons _ _ ih => simp [ih]

theorem Steps.consts {b b' : Bucket} {ts ds : List Nat} (h : Steps b ts ds b') :
    b'.tpt = b.tpt ∧ b'.burst = b.burst := by
  induction h with
  | nil => exact ⟨rfl, rfl⟩
  | cons s _ ih => exact ⟨ih.1.trans s.tpt_eq, ih.2.trans s.burst_eq⟩

/-- the potential `tpt·avail − lr` pays for everything that leaves -/
theorem steps_potential {b b' : Bucket} {ts ds : List Nat} (hs : Steps b ts ds b') :
    ∀ (t0 j : Nat), b.WF t0 → SortedFrom t0 ts → j < ts.length →
    b.tpt * (ds.take (j + 1)).sum + b.lr ≤ b.tpt * b.avail + ts.getD j 0 := by
  induction hs with
  | nil => intro t0 j _ _ hj; exact nomatch hj
  | @cons b b1 b2 t d ts ds s1 _ ih =>
    intro t0 j h hsort hj
    obtain ⟨w1, p1⟩ := step_spec (h.mono hsort.1) s1
    rw [Nat.mul_add] at p1
    cases j with
    | zero =>
      have := w1.lr_le
      simp only [Nat.zero_add, List.take_succ_cons, List.take_zero, List.sum_cons, List.sum_nil,
        Nat.add_zero, List.getD_cons_zero]
      omega
    | succ j =>
      have p2 := ih t j w1 hsort.2 (Nat.lt_of_succ_lt_succ hj)
      rw [s1.tpt_eq] at p2
      simp only [List.take_succ_cons, List.sum_cons, List.getD_cons_succ]
      rw [Nat.mul_add]
      omega

theorem windowSum_zero (xs : List Nat) (j : Nat) : windowSum xs 0 j = (xs.take (j + 1)).sum := by
  simp [windowSum]

theorem windowSum_cons_succ (x : Nat) (xs : List Nat) (i j : Nat) :
    windowSum (x :: xs) (i + 1) (j + 1) = windowSum xs i j := by
  simp only [windowSum, List.drop_succ_cons, Nat.add_sub_add_right]

/-- **C03 (core)**: over any stretch `i..j` of a history `tpt · total + t_i < tpt · (burst + 1) + t_j` -/
theorem steps_window_mul {b b' : Bucket} {ts ds : List Nat} (hs : Steps b ts ds b') :
    ∀ (t0 i j : Nat), b.WF t0 → SortedFrom t0 ts → i ≤ j → j < ts.length →
    b.tpt * windowSum ds i j + ts.getD i 0 < b.tpt * (b.burst + 1) + ts.getD j 0 := by
  induction hs with
  | nil => intro t0 i j _ _ _ hj; exact nomatch hj
  | @cons b b1 b2 t d ts ds s1 srest ih =>
    intro t0 i j h hsort hij hj
    cases i with
    | zero =>
      -- the potential argument run from the refilled start, which holds at most `burst` tokens and whose stamp lags
      -- the first time stamp by less than `tpt`
      obtain ⟨hwf, _, hlag, _⟩ := refilled (h.mono hsort.1)
      have hs1 : SortedFrom t (t :: ts) := ⟨Nat.le_refl _, hsort.2⟩
      have p := steps_potential (Steps.cons (step_of_refill s1) srest) t j hwf hs1 hj
      have hcap : b.tpt * (b.refill t).avail ≤ b.tpt * b.burst :=
        Nat.mul_le_mul_left _ (refill_burst b t ▸ hwf.avail_le)
      rw [refill_tpt] at p
      rw [windowSum_zero, Nat.mul_add, Nat.mul_one, List.getD_cons_zero]
      omega
    | succ i =>
      cases j with
      | zero => omega
      | succ j =>
        -- restart at the state before operation `i`
        obtain ⟨w1, _⟩ := step_spec (h.mono hsort.1) s1
        have := ih t i j w1 hsort.2 (Nat.le_of_succ_le_succ hij) (Nat.lt_of_succ_lt_succ hj)
        rw [s1.tpt_eq, s1.burst_eq] at this
        simpa only [windowSum_cons_succ, List.getD_cons_succ] using this

theorem div_bound {tpt T burst ti tj : Nat} (htpt : 0 < tpt) (hm : tpt * T + ti < tpt * (burst + 1) + tj) :
    T ≤ burst + (tj - ti) / tpt + 1 := by
  have h : T * tpt ≤ tpt * (burst + 1) + (tj - ti) := by rw [Nat.mul_comm]; omega
  rw [← Nat.le_div_iff_mul_le htpt, Nat.mul_add_div htpt] at h
  omega

theorem steps_window {b b' : Bucket} {ts ds : List Nat} (hs : Steps b ts ds b') (t0 i j : Nat) (h : b.WF t0)
    (hsort : SortedFrom t0 ts) (hij : i ≤ j) (hj : j < ts.length) :
    windowSum ds i j ≤ b.burst + (ts.getD j 0 - ts.getD i 0) / b.tpt + 1 :=
  div_bound h.tpt_pos (steps_window_mul hs t0 i j h hsort hij hj)

theorem consume_eq (b : Bucket) (now n : Nat) :
    b.consume now n =
      if n > b.burst then ({ b.refill now with lastConsumed := 0 }, .err)
      else if (b.refill now).avail < n then
        ({ b.refill now with lastConsumed := 0 }, .delay ((n - (b.refill now).avail) * b.tpt))
      else ({ b.refill now with avail := (b.refill now).avail - n, lastConsumed := n }, .ok) := by
  simp only [Bucket.consume, refill_burst, refill_tpt]

/-- `consume` sees the bucket only through its refill -/
theorem consume_congr {b b' : Bucket} {now : Nat} (n : Nat)
    (h : ({ b.refill now with lastConsumed := 0 } : Bucket) = { b'.refill now with lastConsumed := 0 }) :
    b.consume now n = b'.consume now n := by
  unfold Bucket.consume; rw [h]

theorem consume_err_iff (b : Bucket) (now n : Nat) : (b.consume now n).2 = .err ↔ b.burst < n := by
  rw [consume_eq]
  split
  next h1 => exact ⟨fun _ => h1, fun _ => rfl⟩
  next h1 =>
    split
    next => exact ⟨nofun, fun h => absurd h h1⟩
    next => exact ⟨nofun, fun h => absurd h h1⟩

theorem consume_ok_iff (b : Bucket) (now n : Nat) :
    (b.consume now n).2 = .ok ↔ n ≤ b.burst ∧ n ≤ (b.refill now).avail := by
  rw [consume_eq]
  split
  next h1 => exact ⟨nofun, fun h => absurd h.1 (Nat.not_le.mpr h1)⟩
  next h1 =>
    split
    next h2 => exact ⟨nofun, fun h => absurd h.2 (Nat.not_le.mpr h2)⟩
    next h2 => exact ⟨fun _ => ⟨Nat.le_of_not_lt h1, Nat.le_of_not_lt h2⟩, fun _ => rfl⟩

theorem consume_delay_iff (b : Bucket) (now n d : Nat) :
    (b.consume now n).2 = .delay d ↔
      n ≤ b.burst ∧ (b.refill now).avail < n ∧ d = (n - (b.refill now).avail) * b.tpt := by
  rw [consume_eq]
  split
  next h1 => exact ⟨nofun, fun h => absurd h.1 (Nat.not_le.mpr h1)⟩
  next h1 =>
    split
    next h2 =>
      exact ⟨fun h => ⟨Nat.le_of_not_lt h1, h2, (BRes.delay.inj h).symm⟩, fun h => congrArg BRes.delay h.2.2.symm⟩
    next h2 => exact ⟨nofun, fun h => absurd h.2.1 h2⟩

theorem admitted_le (b : Bucket) (now n : Nat) :
    (if (b.consume now n).2 = .ok then n else 0) ≤ (b.refill now).avail := by
  split
  next h => exact ((consume_ok_iff b now n).mp h).2
  next => exact Nat.zero_le _

theorem consume_fst (b : Bucket) (now n : Nat) :
    (b.consume now n).1 = { b.refill now with
      avail := (b.refill now).avail - (if (b.consume now n).2 = .ok then n else 0),
      lastConsumed := if (b.consume now n).2 = .ok then n else 0 } := by
  rw [consume_eq]
  by_cases h1 : n > b.burst
  · rw [if_pos h1]; rfl
  · rw [if_neg h1]
    by_cases h2 : (b.refill now).avail < n
    · rw [if_pos h2]; rfl
    · rw [if_neg h2]; rfl

theorem rollback_consume (b : Bucket) (now n : Nat) :
    (b.consume now n).1.rollback = { b.refill now with lastConsumed := 0 } := by
  rw [consume_fst]
  show ({ b.refill now with avail := (b.refill now).avail - _ + _, lastConsumed := 0 } : Bucket) = _
  rw [Nat.sub_add_cancel (admitted_le b now n)]

theorem rollback_consume_avail (b : Bucket) (now n : Nat) :
    ((b.consume now n).1.rollback).avail = (b.refill now).avail := by
  rw [rollback_consume]

theorem consume_fst_period (b : Bucket) (now n : Nat) : (b.consume now n).1.period = b.period := by
  rw [consume_fst]; exact refill_period b now

theorem consume_zero (b : Bucket) (now : Nat) :
    b.consume now 0 = ({ b.refill now with lastConsumed := 0 }, .ok) := by
  rw [consume_eq, if_neg (Nat.not_lt_zero _), if_neg (Nat.not_lt_zero _)]; rfl

/-- `consume` does not read the `lastConsumed` scratch field -/
theorem consume_set_lastConsumed (b : Bucket) (now n x : Nat) :
    ({ b with lastConsumed := x } : Bucket).consume now n = b.consume now n := by
  simp only [Bucket.consume, refill_set_lastConsumed]

theorem consume_step (b : Bucket) (now n : Nat) :
    Step b now (if (b.consume now n).2 = .ok then n else 0) (b.consume now n).1 := by
  rw [consume_fst]
  exact ⟨refill_tpt b now, refill_burst b now, rfl, Nat.sub_add_cancel (admitted_le b now n)⟩

/-- what a refused or rolled-back request amounts to -/
theorem refill_step (b : Bucket) (now : Nat) : Step b now 0 { b.refill now with lastConsumed := 0 } :=
  ⟨refill_tpt b now, refill_burst b now, rfl, rfl⟩

theorem anyErr_true_iff (rs : List BRes) : anyErr rs = true ↔ BRes.err ∈ rs := by
  induction rs with
  | nil => simp [anyErr]
  | cons r rs ih =>
    cases r <;> simp [anyErr, ih]

theorem anyErr_false_iff (rs : List BRes) : anyErr rs = false ↔ ∀ r ∈ rs, r ≠ .err := by
  rw [← Bool.not_eq_true, anyErr_true_iff]
  exact ⟨fun h r hr he => h (he ▸ hr), fun h he => h _ he rfl⟩

theorem maxDelay_ge (rs : List BRes) (d : Nat) (h : BRes.delay d ∈ rs) : d ≤ maxDelay rs := by
  induction rs with
  | nil => exact nomatch h
  | cons r rs ih =>
    rcases List.mem_cons.mp h with rfl | h'
    · exact Nat.le_max_left ..
    · cases r with
      | delay d' => exact Nat.le_trans (ih h') (Nat.le_max_right ..)
      | ok => exact ih h'
      | err => exact ih h'

theorem maxDelay_mem (rs : List BRes) (h : 0 < maxDelay rs) : BRes.delay (maxDelay rs) ∈ rs := by
  induction rs with
  | nil => exact nomatch h
  | cons r rs ih =>
    cases r with
    | ok => exact List.mem_cons_of_mem _ (ih h)
    | err => exact List.mem_cons_of_mem _ (ih h)
    | delay d =>
      show BRes.delay (max d (maxDelay rs)) ∈ _
      rcases Nat.le_total (maxDelay rs) d with hd | hd
      · rw [Nat.max_eq_left hd]; exact List.mem_cons_self
      · rw [Nat.max_eq_right hd]
        exact List.mem_cons_of_mem _ (ih (Nat.max_eq_right hd ▸ h))

theorem maxDelay_zero_iff (rs : List BRes) : maxDelay rs = 0 ↔ ∀ d, BRes.delay d ∈ rs → d = 0 :=
  ⟨fun h d hd => Nat.le_zero.mp (h ▸ maxDelay_ge rs d hd),
   fun h => Nat.eq_zero_of_not_pos fun hpos => Nat.ne_of_gt hpos (h _ (maxDelay_mem rs hpos))⟩

/-- `consumeSet` with the intermediate lists fused -/
theorem consumeSet_eq (bs : List Bucket) (now n : Nat) :
    consumeSet bs now n =
      if anyErr (bs.map fun b => (b.consume now n).2) then
        (bs.map fun b => (b.consume now n).1.rollback, .err)
      else if maxDelay (bs.map fun b => (b.consume now n).2) > 0 then
        (bs.map fun b => (b.consume now n).1.rollback, .delay (maxDelay (bs.map fun b => (b.consume now n).2)))
      else (bs.map fun b => (b.consume now n).1, .ok) := by
  unfold consumeSet
  simp only [List.map_map]
  rfl

theorem consumeSet_congr {bs bs' : List Bucket} {now n : Nat}
    (h : bs.map (fun b => b.consume now n) = bs'.map (fun b => b.consume now n)) :
    consumeSet bs now n = consumeSet bs' now n := by
  unfold consumeSet; rw [h]

/-- C13: larger than some burst ⇒ error (not a delay), and only then -/
theorem consumeSet_err_iff (bs : List Bucket) (now n : Nat) :
    (consumeSet bs now n).2 = .err ↔ ∃ b ∈ bs, b.burst < n := by
  have key : anyErr (bs.map fun b => (b.consume now n).2) = true ↔ ∃ b ∈ bs, b.burst < n := by
    rw [anyErr_true_iff]
    simp only [List.mem_map, consume_err_iff]
  rw [consumeSet_eq, ← key]
  split
  next h1 => exact ⟨fun _ => h1, fun _ => rfl⟩
  next h1 =>
    split
    next => exact ⟨nofun, fun h => absurd h h1⟩
    next => exact ⟨nofun, fun h => absurd h h1⟩

theorem consumeSet_fst (bs : List Bucket) (now n : Nat) :
    (consumeSet bs now n).1 =
      if (consumeSet bs now n).2 = .ok then bs.map (fun b => (b.consume now n).1)
      else bs.map (fun b => { b.refill now with lastConsumed := 0 }) := by
  rw [consumeSet_eq]
  simp only [rollback_consume]
  generalize bs.map (fun b => (b.consume now n).2) = rs
  by_cases h1 : anyErr rs = true
  · rw [if_pos h1]; rfl
  · rw [if_neg h1]
    by_cases h2 : maxDelay rs > 0
    · rw [if_pos h2]; rfl
    · rw [if_neg h2]; rfl

/-- C13: a refused request leaves every bucket exactly as a bare refill would -/
theorem reject_no_debit (bs : List Bucket) (now n : Nat) (h : (consumeSet bs now n).2 ≠ .ok) :
    (consumeSet bs now n).1 = bs.map (fun b => { b.refill now with lastConsumed := 0 }) := by
  rw [consumeSet_fst, if_neg h]

theorem consumeSet_fst_of_ok (bs : List Bucket) (now n : Nat) (h : (consumeSet bs now n).2 = .ok) :
    (consumeSet bs now n).1 = bs.map (fun b => (b.consume now n).1) := by
  rw [consumeSet_fst, if_pos h]

theorem consumeSet_ok_of_all (bs : List Bucket) (now n : Nat) (h : ∀ b ∈ bs, (b.consume now n).2 = .ok) :
    (consumeSet bs now n).2 = .ok := by
  have hres : ∀ r ∈ bs.map (fun b => (b.consume now n).2), r = .ok := List.forall_mem_map.mpr h
  have h1 : ¬ anyErr (bs.map fun b => (b.consume now n).2) = true := fun he =>
    nomatch hres _ ((anyErr_true_iff _).mp he)
  have h2 : ¬ maxDelay (bs.map fun b => (b.consume now n).2) > 0 := fun hd => nomatch hres _ (maxDelay_mem _ hd)
  rw [consumeSet_eq, if_neg h1, if_neg h2]

/-- `htpt`: a `delay 0` answer, possible only with `tpt = 0`, counts as agreement -/
theorem consumeSet_all_of_ok (bs : List Bucket) (now n : Nat) (htpt : ∀ b ∈ bs, 0 < b.tpt)
    (h : (consumeSet bs now n).2 = .ok) : ∀ b ∈ bs, (b.consume now n).2 = .ok := by
  rw [consumeSet_eq] at h
  split at h
  · exact nomatch h
  · split at h
    · exact nomatch h
    · rename_i h1 h2
      intro b hb
      have hmem : (b.consume now n).2 ∈ bs.map (fun b => (b.consume now n).2) := List.mem_map.mpr ⟨b, hb, rfl⟩
      cases hres : (b.consume now n).2 with
      | ok => rfl
      | err => exact absurd ((anyErr_true_iff _).mpr (hres ▸ hmem)) h1
      | delay d =>
        -- a positive `tpt` makes every per-bucket delay positive
        rw [hres] at hmem
        obtain ⟨_, hlt, hd⟩ := (consume_delay_iff b now n d).mp hres
        have hpos : 0 < d := hd ▸ Nat.mul_pos (Nat.sub_pos_of_lt hlt) (htpt b hb)
        exact absurd (Nat.lt_of_lt_of_le hpos (maxDelay_ge _ d hmem)) h2

theorem consumeSet_delay (bs : List Bucket) (now n d : Nat) (h : (consumeSet bs now n).2 = .delay d) :
    0 < d ∧ (∀ b ∈ bs, n ≤ b.burst) ∧
    (∀ b ∈ bs, ∀ d', (b.consume now n).2 = .delay d' → d' ≤ d) ∧
    ∃ b ∈ bs, (b.consume now n).2 = .delay d := by
  rw [consumeSet_eq] at h
  split at h
  · exact nomatch h
  · split at h
    · rename_i h1 h2
      cases h
      refine ⟨h2, ?_, ?_, ?_⟩
      · intro b hb
        apply Nat.le_of_not_lt
        rw [← consume_err_iff b now n]
        intro he
        exact h1 ((anyErr_true_iff _).mpr (List.mem_map.mpr ⟨b, hb, he⟩))
      · intro b hb d' hd'
        exact maxDelay_ge _ d' (List.mem_map.mpr ⟨b, hb, hd'⟩)
      · obtain ⟨b, hb, he⟩ := List.mem_map.mp (maxDelay_mem _ h2)
        exact ⟨b, hb, he⟩
    · exact nomatch h

theorem consumeSet_length (bs : List Bucket) (now n : Nat) :
    (consumeSet bs now n).1.length = bs.length := by
  rw [consumeSet_fst]
  split <;> exact List.length_map _

/-- the set acts bucket by bucket: each bucket makes a `Step`, of the request's amount if the whole set agreed, of `0` otherwise -/
theorem consumeSet_map (bs : List Bucket) (now n : Nat) (htpt : ∀ b ∈ bs, 0 < b.tpt) :
    ∃ f : Bucket → Bucket, (consumeSet bs now n).1 = bs.map f ∧
      ∀ b ∈ bs, Step b now (if (consumeSet bs now n).2 = .ok then n else 0) (f b) := by
  by_cases hok : (consumeSet bs now n).2 = .ok
  · rw [if_pos hok]
    refine ⟨_, consumeSet_fst_of_ok bs now n hok, fun b hb => ?_⟩
    have := consume_step b now n
    rwa [if_pos (consumeSet_all_of_ok bs now n htpt hok b hb)] at this
  · rw [if_neg hok]
    exact ⟨_, reject_no_debit bs now n hok, fun b _ => refill_step b now⟩

/-- **C13 (core)**: whatever the outcome, every bucket of the set is afterwards the refilled
    bucket minus the request, and minus nothing at all unless the whole set agreed. -/
theorem consumeSet_bucket (bs : List Bucket) (now n : Nat) (k : Nat) (hk : k < bs.length)
    (htpt : ∀ b ∈ bs, 0 < b.tpt) :
    ∃ b', (consumeSet bs now n).1[k]? = some b' ∧
      Step bs[k] now (if (consumeSet bs now n).2 = .ok then n else 0) b' := by
  obtain ⟨f, e, hs⟩ := consumeSet_map bs now n htpt
  exact ⟨f bs[k], by rw [e, List.getElem?_map, List.getElem?_eq_getElem hk]; rfl, hs _ (List.getElem_mem hk)⟩

end RL
