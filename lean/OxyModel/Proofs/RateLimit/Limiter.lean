import OxyModel.Model.RateLimit
import OxyModel.Proofs.RateLimit.TTL

/-! `Limiter.serve` seen from one source: response and new entry depend only on that source's tracked
entry; entries of other sources are untouched unless they are the eviction victim. -/
namespace RL
open TTL

/-- the bucket set `consumeRates` works on, as a function of the source's tracked entry -/
def currentOf (e : Option (Entry BucketSet)) (now : Nat) (rates : List Rate) : BucketSet :=
  match e with
  | none => BucketSet.new rates now
  | some e => if e.expiry ≤ nowSec now then BucketSet.new rates now else e.val.update rates now

/-- `serve` as a function of the source's tracked entry: the new entry and the response -/
def serveEntry (defaults : List Rate) (e : Option (Entry BucketSet)) (now : Nat) (src : String) (amount : Nat)
    (reqRates : List Rate) : Entry BucketSet × Resp :=
  (⟨src, ((currentOf e now (if reqRates.isEmpty then defaults else reqRates)).consume now amount).1,
      expiryAt now (ttlOf (currentOf e now (if reqRates.isEmpty then defaults else reqRates)))⟩,
    Resp.ofSRes ((currentOf e now (if reqRates.isEmpty then defaults else reqRates)).consume now amount).2)

theorem ofSRes_ok (x : SRes) : Resp.ofSRes x = .ok ↔ x = .ok := by cases x <;> simp [Resp.ofSRes]
theorem ofSRes_err (x : SRes) : Resp.ofSRes x = .err ↔ x = .err := by cases x <;> simp [Resp.ofSRes]
theorem ofSRes_delay (x : SRes) (d : Nat) : Resp.ofSRes x = .tooMany d ↔ x = .delay d := by
  cases x <;> simp [Resp.ofSRes]

theorem serveEntry_resp (d : List Rate) (e : Option (Entry BucketSet)) (now : Nat) (s : String) (n : Nat) :
    (serveEntry d e now s n []).2 = Resp.ofSRes (consumeSet (currentOf e now d).buckets now n).2 := rfl

theorem serveEntry_buckets (d : List Rate) (e : Option (Entry BucketSet)) (now : Nat) (s : String) (n : Nat) :
    (serveEntry d e now s n []).1.val.buckets = (consumeSet (currentOf e now d).buckets now n).1 := rfl

theorem currentOf_expired {e : Entry BucketSet} {now : Nat} (h : e.expiry ≤ nowSec now) (rates : List Rate) :
    currentOf (some e) now rates = BucketSet.new rates now :=
  if_pos h

theorem currentOf_live {e : Entry BucketSet} {now : Nat} (h : ¬ e.expiry ≤ nowSec now) (rates : List Rate) :
    currentOf (some e) now rates = e.val.update rates now :=
  if_neg h

theorem current_eq (l : Limiter) (now : Nat) (src : String) (rates : List Rate) :
    l.current now src rates = currentOf (l.sets.find? src) now rates := by
  unfold Limiter.current currentOf
  rw [get_result]
  cases l.sets.find? src with
  | none => rfl
  | some e =>
    simp only
    by_cases h : e.expiry ≤ nowSec now
    · simp [h]
    · simp [h]

theorem serve_resp (l : Limiter) (now : Nat) (src : String) (amount : Nat) (rr : List Rate) (victim : String) :
    (l.serve now src amount rr victim).2 = (serveEntry l.defaults (l.sets.find? src) now src amount rr).2 := by
  unfold Limiter.serve serveEntry Limiter.resolve
  simp only [current_eq]

theorem serve_resp_current {rates : List Rate} {l : Limiter} (hd : l.defaults = rates) (t : Nat) (src : String)
    (n : Nat) (v : String) :
    (l.serve t src n [] v).2 = Resp.ofSRes (consumeSet (currentOf (l.sets.find? src) t rates).buckets t n).2 := by
  rw [serve_resp, hd, serveEntry_resp]

theorem serve_defaults (l : Limiter) (now : Nat) (src : String) (amount : Nat) (rr : List Rate) (victim : String) :
    (l.serve now src amount rr victim).1.defaults = l.defaults := rfl

/-- `serve` seen through `find?`: the source's entry is rewritten, the victim's goes if room had to be made, no
other changes -/
theorem serve_find (l : Limiter) (now : Nat) (src s : String) (amount : Nat) (rr : List Rate) (victim : String) :
    (l.serve now src amount rr victim).1.sets.find? s =
      if s = src then some (serveEntry l.defaults (l.sets.find? src) now src amount rr).1
      else if l.evictsAt now src = true ∧ victim = s then none else l.sets.find? s := by
  unfold Limiter.serve serveEntry Limiter.resolve Limiter.evictsAt
  simp only [current_eq, find?_set]
  split
  · rfl
  · rename_i hs; rw [get_find?_other _ _ _ _ hs]

theorem serve_capacity (l : Limiter) (now : Nat) (src : String) (amount : Nat) (rr : List Rate) (victim : String) :
    (l.serve now src amount rr victim).1.sets.capacity = l.sets.capacity := by
  unfold Limiter.serve
  simp only
  rw [set_capacity, get_capacity]

theorem serve_keys_subset (l : Limiter) (now : Nat) (src : String) (amount : Nat) (rr : List Rate) (victim : String) :
    (l.serve now src amount rr victim).1.sets.keys ⊆ src :: l.sets.keys := by
  unfold Limiter.serve
  simp only
  intro x hx
  have := set_keys_subset _ _ _ _ _ _ hx
  rcases List.mem_cons.mp this with h | h
  · exact List.mem_cons.mpr (Or.inl h)
  · exact List.mem_cons_of_mem _ ((get_keys_sublist _ _ _).subset h)

theorem serve_keys_nodup (l : Limiter) (now : Nat) (src : String) (amount : Nat) (rr : List Rate) (victim : String)
    (h : l.sets.keys.Nodup) : (l.serve now src amount rr victim).1.sets.keys.Nodup := by
  unfold Limiter.serve
  simp only
  exact set_keys_nodup _ _ _ _ _ _ (h.sublist (get_keys_sublist _ _ _))

theorem evictsAt_of_room (l : Limiter) (S : List String) (now : Nat) (src : String) (hnd : l.sets.keys.Nodup)
    (hsub : l.sets.keys ⊆ S) (hsrc : src ∈ S) (hcap : S.dedup.length ≤ l.sets.capacity) :
    l.evictsAt now src = false := by
  unfold Limiter.evictsAt Map.evicts
  cases hf : ((l.sets.get src now).1.find? src) with
  | some e => rfl
  | none =>
    have hlt := length_lt_of_new_key _ S src (hnd.sublist (get_keys_sublist l.sets src now))
      (fun x hx => hsub ((get_keys_sublist _ _ _).subset hx)) hsrc ((find?_none_iff _ _).mp hf)
    have hc := get_capacity l.sets src now
    have hlen : (l.sets.get src now).1.keys.length = (l.sets.get src now).1.entries.length := List.length_map _
    have : ¬ ((l.sets.get src now).1.entries.length ≥ (l.sets.get src now).1.capacity) := by omega
    simp [this]

end RL
