import OxyModel.Model.TTLMap
import Mathlib.Data.List.Dedup
import Batteries.Data.List.Perm

/-! Facts about the TTL map model: what `get` / `set` do to the entry of every key. -/
namespace TTL
variable {α : Type}

theorem expiryAt_eq (now ttl : Nat) : expiryAt now ttl = now / 1000000000 + ttl :=
  Nat.add_mul_div_right now ttl (by decide)

theorem find?_key (m : Map α) (k : String) (e : Entry α) (h : m.find? k = some e) : e.key = k := by
  simpa using List.find?_some h

theorem find?_mem (m : Map α) (k : String) (e : Entry α) (h : m.find? k = some e) : e ∈ m.entries :=
  List.mem_of_find?_eq_some h

theorem find?_none_iff (m : Map α) (k : String) : m.find? k = none ↔ k ∉ m.keys := by
  simp only [Map.find?, Map.keys, List.find?_eq_none, List.mem_map, beq_iff_eq, not_exists, not_and]

theorem find?_of_mem (m : Map α) (hnd : m.keys.Nodup) (e : Entry α) (he : e ∈ m.entries) :
    m.find? e.key = some e := by
  cases hf : m.find? e.key with
  | none => exact absurd (List.mem_map_of_mem he) ((find?_none_iff m e.key).1 hf)
  | some e' => rw [List.inj_on_of_nodup_map hnd (find?_mem m _ e' hf) he (find?_key m _ e' hf)]

theorem isMin_iff (m : Map α) (k : String) :
    m.isMin k = true ↔ ∃ e, m.find? k = some e ∧ ∀ e' ∈ m.entries, e.expiry ≤ e'.expiry := by
  unfold Map.isMin
  cases m.find? k with
  | none => simp only [Bool.false_eq_true, reduceCtorEq, false_and, exists_false]
  | some e => simp only [List.all_eq_true, decide_eq_true_eq, Option.some.injEq, exists_eq_left']

/-- `set` of a tracked key: value and expiry of its entry are overwritten in place -/
def Map.refresh (m : Map α) (k : String) (v : α) (exp : Nat) : Map α :=
  { m with entries := m.entries.map (fun e => if e.key == k then { e with val := v, expiry := exp } else e) }

/-- `set` of an untracked key, after room has been made: a new entry at the end -/
def Map.add (m : Map α) (e : Entry α) : Map α := { m with entries := m.entries ++ [e] }

theorem set_eq (m : Map α) (k : String) (v : α) (ttl now : Nat) (victim : String) :
    m.set k v ttl now victim =
      if (m.find? k).isSome then m.refresh k v (expiryAt now ttl)
      else (if m.evicts k then m.erase victim else m).add ⟨k, v, expiryAt now ttl⟩ := by
  unfold Map.set
  cases m.find? k <;> rfl

theorem find?_erase (m : Map α) (v s : String) : (m.erase v).find? s = if v = s then none else m.find? s := by
  unfold Map.erase Map.find?
  rw [List.find?_filter]
  split
  · rename_i h; subst h; simp
  · rename_i h; congr 1; funext e
    by_cases he : e.key = s <;> simp [he, Ne.symm h]

theorem keys_erase (m : Map α) (k : String) : (m.erase k).keys = m.keys.filter (fun x => !(x == k)) := by
  unfold Map.erase Map.keys
  rw [List.filter_map]; rfl

theorem find?_add (m : Map α) (e : Entry α) (s : String) :
    (m.add e).find? s = (m.find? s).or (if e.key = s then some e else none) := by
  unfold Map.add Map.find?
  rw [List.find?_append, List.find?_singleton]
  by_cases h : e.key = s <;> simp [h]

theorem keys_add (m : Map α) (e : Entry α) : (m.add e).keys = m.keys ++ [e.key] := by
  simp [Map.add, Map.keys]

theorem find?_refresh (m : Map α) (k : String) (v : α) (exp : Nat) (s : String) :
    (m.refresh k v exp).find? s =
      (m.find? s).map (fun e => if e.key == k then { e with val := v, expiry := exp } else e) := by
  unfold Map.refresh Map.find?
  rw [List.find?_map]
  congr 2; funext e
  simp only [Function.comp]; split <;> rfl

theorem keys_refresh (m : Map α) (k : String) (v : α) (exp : Nat) : (m.refresh k v exp).keys = m.keys := by
  unfold Map.refresh Map.keys
  rw [List.map_map]
  apply List.map_congr_left
  intro e _
  simp only [Function.comp]; split <;> rfl

theorem keys_erase_sublist (m : Map α) (k : String) : (m.erase k).keys.Sublist m.keys := by
  rw [keys_erase]; exact List.filter_sublist

theorem get_fst (m : Map α) (k : String) (now : Nat) : (m.get k now).1 = m ∨ (m.get k now).1 = m.erase k := by
  unfold Map.get
  split
  · exact .inl rfl
  · split
    · exact .inr rfl
    · exact .inl rfl

theorem get_find?_other (m : Map α) (k s : String) (now : Nat) (h : s ≠ k) :
    (m.get k now).1.find? s = m.find? s := by
  rcases get_fst m k now with e | e
  · rw [e]
  · rw [e, find?_erase, if_neg (Ne.symm h)]

theorem get_keys_sublist (m : Map α) (k : String) (now : Nat) : (m.get k now).1.keys.Sublist m.keys := by
  rcases get_fst m k now with e | e
  · rw [e]
  · rw [e]; exact keys_erase_sublist m k

theorem get_capacity (m : Map α) (k : String) (now : Nat) : (m.get k now).1.capacity = m.capacity := by
  rcases get_fst m k now with e | e
  · rw [e]
  · rw [e]; rfl

theorem get_result (m : Map α) (k : String) (now : Nat) :
    (m.get k now).2 = (match m.find? k with
      | none => none
      | some e => if e.expiry ≤ nowSec now then none else some e.val) := by
  unfold Map.get
  cases hf : m.find? k with
  | none => rfl
  | some e => simp only; split <;> rfl

theorem get_find?_self (m : Map α) (k : String) (now : Nat) :
    (m.get k now).1.find? k = (match m.find? k with
      | none => none
      | some e => if e.expiry ≤ nowSec now then none else some e) := by
  unfold Map.get
  cases hf : m.find? k with
  | none => simp [hf]
  | some e =>
    simp only
    split
    · rw [find?_erase, if_pos rfl]
    · exact hf

theorem evicts_find?_none (m : Map α) (k : String) (h : m.evicts k = true) : m.find? k = none := by
  unfold Map.evicts at h
  simp only [Bool.and_eq_true, Option.isNone_iff_eq_none] at h
  exact h.1.1

theorem evicts_ne_nil (m : Map α) (k : String) (h : m.evicts k = true) : m.entries ≠ [] := by
  unfold Map.evicts at h
  simp only [Bool.and_eq_true, Bool.not_eq_eq_eq_not, Bool.not_true, List.isEmpty_eq_false_iff] at h
  exact h.2

theorem find?_room (m : Map α) (k victim s : String) :
    (if m.evicts k then m.erase victim else m).find? s =
      if m.evicts k = true ∧ victim = s then none else m.find? s := by
  by_cases hev : m.evicts k = true
  · simp only [hev, if_true, true_and, find?_erase]
  · simp only [hev, if_false, false_and, Bool.false_eq_true]

/-- `set` seen through `find?`: the entry of `k` is written, the victim's goes if room had to be made, no other changes -/
theorem find?_set (m : Map α) (k s : String) (v : α) (ttl now : Nat) (victim : String) :
    (m.set k v ttl now victim).find? s =
      if s = k then some ⟨k, v, expiryAt now ttl⟩
      else if m.evicts k = true ∧ victim = s then none else m.find? s := by
  rw [set_eq]
  cases hf : m.find? k with
  | some e =>
    -- a tracked key makes no room
    have hev : ¬ (m.evicts k = true ∧ victim = s) := fun h => nomatch (evicts_find?_none m k h.1).symm.trans hf
    rw [if_neg hev, Option.isSome_some, if_pos rfl, find?_refresh]
    by_cases hs : s = k
    · subst hs; simp [hf, find?_key m s e hf]
    · rw [if_neg hs]
      cases hs' : m.find? s with
      | none => rfl
      | some e' => simp [find?_key m s e' hs', hs]
  | none =>
    rw [Option.isSome_none, if_neg Bool.false_ne_true, find?_add, find?_room]
    by_cases hs : s = k
    · subst hs; simp [hf]
    · rw [if_neg hs, if_neg (Ne.symm hs), Option.or_none]

theorem set_capacity (m : Map α) (k : String) (v : α) (ttl now : Nat) (victim : String) :
    (m.set k v ttl now victim).capacity = m.capacity := by
  unfold Map.set
  cases m.find? k with
  | some _ => rfl
  | none => show (if m.evicts k then m.erase victim else m).capacity = _; split <;> rfl

theorem set_keys_subset (m : Map α) (k : String) (v : α) (ttl now : Nat) (victim : String) :
    (m.set k v ttl now victim).keys ⊆ k :: m.keys := by
  rw [set_eq]
  split
  · rw [keys_refresh]; exact List.subset_cons_self ..
  · rw [keys_add]
    intro x hx
    rcases List.mem_append.1 hx with hx | hx
    · refine List.mem_cons_of_mem _ ?_
      split at hx
      · exact (keys_erase_sublist m victim).subset hx
      · exact hx
    · rw [List.mem_singleton.1 hx]; exact List.mem_cons_self

theorem set_keys_nodup (m : Map α) (k : String) (v : α) (ttl now : Nat) (victim : String)
    (h : m.keys.Nodup) : (m.set k v ttl now victim).keys.Nodup := by
  rw [set_eq]
  split
  · rw [keys_refresh]; exact h
  · rename_i hf
    have hk : k ∉ m.keys := (find?_none_iff m k).1 (by simpa using hf)
    rw [keys_add, List.nodup_append]
    refine ⟨?_, List.nodup_singleton _, fun a ha b hb => ?_⟩
    · split
      · exact h.sublist (keys_erase_sublist m victim)
      · exact h
    · rw [List.mem_singleton.1 hb]
      rintro rfl
      split at ha
      · exact hk ((keys_erase_sublist m victim).subset ha)
      · exact hk ha

/-- pigeonhole: a key outside a duplicate-free key list that lives in `S` leaves room -/
theorem length_lt_of_new_key (keys S : List String) (k : String) (hnd : keys.Nodup) (hsub : keys ⊆ S)
    (hk : k ∈ S) (hnew : k ∉ keys) : keys.length < S.dedup.length := by
  have h1 : (k :: keys).Nodup := List.nodup_cons.mpr ⟨hnew, hnd⟩
  have h2 : (k :: keys) ⊆ S.dedup := by
    intro x hx
    rw [List.mem_dedup]
    rcases List.mem_cons.mp hx with rfl | hx
    · exact hk
    · exact hsub hx
  exact (List.subperm_of_subset h1 h2).length_le

end TTL
