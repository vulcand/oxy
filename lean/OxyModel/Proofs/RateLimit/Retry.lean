import OxyModel.Proofs.RateLimit.Refine

/-! Limiter-level C13 facts: what a retry / an idle source gets, across entry expiry and eviction. -/
namespace RL
open TTL

/-- every tracked entry holds a well-formed bucket set of the configured rates, last used no later than `now` -/
def LimiterInv (rates : List Rate) (l : Limiter) (now : Nat) : Prop :=
  l.defaults = rates ∧ ∀ s e, l.sets.find? s = some e → ∃ tl, tl ≤ now ∧ EntryInv rates e tl

theorem inv_entry {rates : List Rate} {l : Limiter} {now t : Nat} (hinv : LimiterInv rates l now) (hnt : now ≤ t)
    (src : String) : TrackedInv rates (l.sets.find? src) t := fun e' he' =>
  let ⟨tl, htl, hi⟩ := hinv.2 src e' he'
  ⟨tl, Nat.le_trans htl hnt, hi⟩

theorem inv_current {rates : List Rate} (hv : ValidRates rates) {l : Limiter} {now t : Nat}
    (hinv : LimiterInv rates l now) (hnt : now ≤ t) (src : String) :
    ∃ tl, tl ≤ t ∧ List.Forall₂ (Matches tl) (currentOf (l.sets.find? src) t rates).buckets rates :=
  (currentOf_matches rates hv _ t (inv_entry hinv hnt src)).2

theorem inv_serve (rates : List Rate) (hv : ValidRates rates) (l : Limiter) (now t : Nat) (hinv : LimiterInv rates l now)
    (hle : now ≤ t) (src : String) (n : Nat) (victim : String) :
    LimiterInv rates (l.serve t src n [] victim).1 t := by
  refine ⟨hinv.1, ?_⟩
  intro s e hs
  rw [serve_find, hinv.1] at hs
  split at hs
  · cases hs
    exact ⟨t, Nat.le_refl _, serveEntry_inv rates hv _ t src n (inv_entry hinv hle src)⟩
  · split at hs
    · exact nomatch hs
    · exact inv_entry hinv hle s e hs

theorem inv_new (rates : List Rate) (capacity : Nat) : LimiterInv rates (Limiter.new rates capacity) 0 := by
  refine ⟨rfl, ?_⟩
  intro s e h
  simp [Limiter.new, TTL.empty, Map.find?] at h

/-- the time stamp of the last request of a history (`t0` if there is none) -/
def lastTime (t0 : Nat) : List Req → Nat
  | [] => t0
  | r :: rs => lastTime r.t rs

theorem inv_after (rates : List Rate) (hv : ValidRates rates) (reqs : List Req) : ∀ (l : Limiter) (now : Nat),
    LimiterInv rates l now → SortedFrom now (reqs.map (·.t)) → LimiterInv rates (l.after reqs) (lastTime now reqs) := by
  induction reqs with
  | nil => intro l now h _; exact h
  | cons r rs ih =>
    intro l now h hs
    exact ih _ r.t (inv_serve rates hv l now r.t h hs.1 r.src r.amount r.victim) hs.2

theorem after_others (s : String) (others : List Req) (hoth : ∀ r ∈ others, r.src ≠ s) : ∀ (l : Limiter),
    (l.after others).sets.find? s = l.sets.find? s ∨ (l.after others).sets.find? s = none := by
  induction others with
  | nil => intro l; left; rfl
  | cons r rs ih =>
    intro l
    have h := ih (fun r' hr' => hoth r' (List.mem_cons_of_mem _ hr')) (l.serve r.t r.src r.amount [] r.victim).1
    rw [serve_find, if_neg (Ne.symm (hoth r List.mem_cons_self))] at h
    split at h
    · exact .inr (h.elim id id)
    · exact h

theorem after_defaults (others : List Req) : ∀ (l : Limiter), (l.after others).defaults = l.defaults := by
  induction others with
  | nil => intro _; rfl
  | cons r rs ih => intro l; unfold Limiter.after; rw [ih, serve_defaults]

/-- **transfer** from the set to the limiter: the source's entry is still the one its earlier request wrote, or it has
    expired or been evicted — and a new set admits everything up to the bursts -/
theorem retry_of_set {rates : List Rate} (hv : ValidRates rates) {l : Limiter} {now t : Nat}
    (hinv : LimiterInv rates l now) (hnt : now ≤ t) (src : String) (n : Nat) (v : String)
    (others : List Req) (hoth : ∀ r ∈ others, r.src ≠ src) (t' n' : Nat)
    (hn' : ∀ r ∈ rates, n' ≤ r.burst) (v' : String)
    (hset : (consumeSet (consumeSet (currentOf (l.sets.find? src) t rates).buckets t n).1 t' n').2 = .ok) :
    (((l.serve t src n [] v).1.after others).serve t' src n' [] v').2 = .ok := by
  have hi := serveEntry_inv rates hv _ t src n (inv_entry hinv hnt src)
  rw [serve_resp_current ((after_defaults others (l.serve t src n [] v).1).trans hinv.1), ofSRes_ok]
  rcases after_others src others hoth (l.serve t src n [] v).1 with h | h
  · rw [h, serve_find, if_pos rfl, hinv.1]
    by_cases hexp : (serveEntry rates (l.sets.find? src) t src n []).1.expiry ≤ nowSec t'
    · rw [currentOf_expired hexp]
      exact new_admits rates t' n' hn'
    · rw [currentOf_live hexp, update_same t t' _ rates hi.buckets hv.nodup hi.maxPeriod_eq]
      exact hset
  · rw [h]
    exact new_admits rates t' n' hn'

end RL
