import OxyModel.Proofs.RateLimit.Limiter

/-! Non-interference along histories: only the source's own entry matters.  Proved for histories in which every
request carries its own rate set (`ExtractRates`; `bucketSet.Update(effectiveRates)` on an existing entry is part of
`serve`); a history with the default rates is the special case in which every request carries the rate set `[]`. -/
namespace RL
open TTL

/-- `(time, amount, rates)` of the requests of source `s` -/
def opsOfR (s : String) (reqs : List ReqR) : List (Nat × Nat × List Rate) :=
  (reqs.filter (fun r => r.src = s)).map (fun r => (r.t, r.amount, r.rates))

/-- responses to a history of `(time, amount, rates)` requests of one source, computed on its entry alone -/
def entryRunR (defaults : List Rate) (s : String) : Option (Entry BucketSet) → List (Nat × Nat × List Rate) → List Resp
  | _, [] => []
  | e, (t, n, rr) :: ops =>
    (serveEntry defaults e t s n rr).2 :: entryRunR defaults s (some (serveEntry defaults e t s n rr).1) ops

theorem decisions_eq_entryRunR (s : String) (reqs : List ReqR) : ∀ (l : Limiter), l.sparesR s reqs →
    l.decisionsForR s reqs = entryRunR l.defaults s (l.sets.find? s) (opsOfR s reqs) := by
  induction reqs with
  | nil => intro l _; rfl
  | cons r rs ih =>
    intro l hsp
    obtain ⟨h1, h2⟩ := hsp
    by_cases hr : r.src = s
    · have hops : opsOfR s (r :: rs) = (r.t, r.amount, r.rates) :: opsOfR s rs := by
        unfold opsOfR; simp [hr]
      rw [hops]
      unfold Limiter.decisionsForR
      rw [if_pos hr]
      unfold entryRunR
      rw [ih _ h2, serve_defaults, serve_resp]
      subst hr
      rw [serve_find, if_pos rfl]
    · have hops : opsOfR s (r :: rs) = opsOfR s rs := by
        unfold opsOfR; simp [hr]
      rw [hops]
      unfold Limiter.decisionsForR
      rw [if_neg hr, ih _ h2, serve_defaults, serve_find, if_neg (Ne.symm hr), if_neg fun h => h1 hr h.1 h.2]

theorem sparesR_of_noEvictR (s : String) (reqs : List ReqR) : ∀ (l : Limiter), l.noEvictR reqs → l.sparesR s reqs := by
  induction reqs with
  | nil => intro _ _; trivial
  | cons r rs ih =>
    intro l h
    exact ⟨fun _ he => by rw [h.1] at he; exact absurd he (by simp), ih _ h.2⟩

theorem sparesR_of_own (s : String) (reqs : List ReqR) (hall : ∀ r ∈ reqs, r.src = s) :
    ∀ (l : Limiter), l.sparesR s reqs := by
  induction reqs with
  | nil => intro _; trivial
  | cons r rs ih =>
    intro l
    exact ⟨fun h => absurd (hall r List.mem_cons_self) h, ih (fun r' hr' => hall r' (List.mem_cons_of_mem _ hr')) _⟩

theorem decisionsForR_own (s : String) (reqs : List ReqR) (hall : ∀ r ∈ reqs, r.src = s) :
    ∀ (l : Limiter), l.decisionsForR s reqs = l.runR reqs := by
  induction reqs with
  | nil => intro _; rfl
  | cons r rs ih =>
    intro l
    unfold Limiter.decisionsForR Limiter.runR
    rw [if_pos (hall r List.mem_cons_self), ih (fun r' hr' => hall r' (List.mem_cons_of_mem _ hr'))]

theorem opsOfR_filter (s : String) (reqs : List ReqR) :
    opsOfR s (reqs.filter (fun r => r.src = s)) = opsOfR s reqs := by
  unfold opsOfR
  rw [List.filter_filter]
  simp

theorem runR_own_eq_entryRunR (s : String) (reqs : List ReqR) (l : Limiter) :
    l.runR (reqs.filter (fun r => r.src = s)) = entryRunR l.defaults s (l.sets.find? s) (opsOfR s reqs) := by
  have hall : ∀ r ∈ reqs.filter (fun r => r.src = s), r.src = s := by
    intro r hr
    simpa using (List.mem_filter.mp hr).2
  rw [← decisionsForR_own s _ hall l, decisions_eq_entryRunR s _ l (sparesR_of_own s _ hall l), opsOfR_filter]

theorem noEvictR_of_capacity (S : List String) (reqs : List ReqR) : ∀ (l : Limiter),
    l.sets.keys.Nodup → l.sets.keys ⊆ S → (∀ r ∈ reqs, r.src ∈ S) → S.dedup.length ≤ l.sets.capacity →
    l.noEvictR reqs := by
  induction reqs with
  | nil => intro _ _ _ _ _; trivial
  | cons r rs ih =>
    intro l hnd hsub hS hcap
    have hr : r.src ∈ S := hS r List.mem_cons_self
    refine ⟨evictsAt_of_room l S r.t r.src hnd hsub hr hcap, ?_⟩
    apply ih
    · exact serve_keys_nodup _ _ _ _ _ _ hnd
    · intro x hx
      rcases List.mem_cons.mp (serve_keys_subset _ _ _ _ _ _ hx) with h | h
      · exact h ▸ hr
      · exact hsub h
    · exact fun r' hr' => hS r' (List.mem_cons_of_mem _ hr')
    · rw [serve_capacity]; exact hcap

/-- a request without rates of its own -/
def Req.toR (r : Req) : ReqR := ⟨r.t, r.src, r.amount, [], r.victim⟩

theorem run_eq_runR (reqs : List Req) : ∀ l : Limiter, l.run reqs = l.runR (reqs.map Req.toR) := by
  induction reqs with
  | nil => intro _; rfl
  | cons r rs ih => intro l; exact congrArg _ (ih _)

theorem decisionsFor_eq_R (s : String) (reqs : List Req) :
    ∀ l : Limiter, l.decisionsFor s reqs = l.decisionsForR s (reqs.map Req.toR) := by
  induction reqs with
  | nil => intro _; rfl
  | cons r rs ih =>
    intro l
    show (if r.src = s then _ else _) = if r.src = s then _ else _
    rw [ih]; rfl

theorem spares_iff_R (s : String) (reqs : List Req) : ∀ l : Limiter, l.spares s reqs ↔ l.sparesR s (reqs.map Req.toR) := by
  induction reqs with
  | nil => intro _; rfl
  | cons r rs ih => intro l; exact and_congr_right' (ih _)

theorem noEvict_iff_R (reqs : List Req) : ∀ l : Limiter, l.noEvict reqs ↔ l.noEvictR (reqs.map Req.toR) := by
  induction reqs with
  | nil => intro _; rfl
  | cons r rs ih => intro l; exact and_congr_right' (ih _)

theorem opsOfR_toR (s : String) (reqs : List Req) :
    opsOfR s (reqs.map Req.toR) = (opsOf s reqs).map fun p => (p.1, p.2, []) := by
  unfold opsOfR opsOf
  rw [List.filter_map, List.map_map, List.map_map]
  rfl

def entryRun (defaults : List Rate) (s : String) : Option (Entry BucketSet) → List (Nat × Nat) → List Resp
  | _, [] => []
  | e, (t, n) :: ops =>
    (serveEntry defaults e t s n []).2 :: entryRun defaults s (some (serveEntry defaults e t s n []).1) ops

theorem entryRun_eq_R (d : List Rate) (s : String) (ops : List (Nat × Nat)) : ∀ e,
    entryRun d s e ops = entryRunR d s e (ops.map fun p => (p.1, p.2, [])) := by
  induction ops with
  | nil => intro _; rfl
  | cons p ops ih => intro e; exact congrArg _ (ih _)

/-- **non-interference, general form**: as long as `s` is never the eviction victim, the decisions
    taken for `s` in an interleaved history are those computed from its own entry and its own requests -/
theorem decisions_eq_entryRun (s : String) (reqs : List Req) (l : Limiter) (h : l.spares s reqs) :
    l.decisionsFor s reqs = entryRun l.defaults s (l.sets.find? s) (opsOf s reqs) := by
  rw [decisionsFor_eq_R, decisions_eq_entryRunR s _ l ((spares_iff_R s reqs l).mp h), opsOfR_toR, entryRun_eq_R]

theorem run_own_eq_entryRun (s : String) (reqs : List Req) (l : Limiter) :
    l.run (reqs.filter (fun r => r.src = s)) = entryRun l.defaults s (l.sets.find? s) (opsOf s reqs) := by
  have hf : (reqs.filter fun r => r.src = s).map Req.toR = (reqs.map Req.toR).filter fun r => r.src = s := by
    rw [List.filter_map]; rfl
  rw [run_eq_runR, hf, runR_own_eq_entryRunR, opsOfR_toR, entryRun_eq_R]

theorem spares_of_noEvict (s : String) (reqs : List Req) (l : Limiter) (h : l.noEvict reqs) : l.spares s reqs :=
  (spares_iff_R s reqs l).mpr (sparesR_of_noEvictR s _ l ((noEvict_iff_R reqs l).mp h))

theorem noEvict_of_capacity (S : List String) (reqs : List Req) (l : Limiter)
    (hnd : l.sets.keys.Nodup) (hsub : l.sets.keys ⊆ S) (hS : ∀ r ∈ reqs, r.src ∈ S) (hcap : S.dedup.length ≤ l.sets.capacity) :
    l.noEvict reqs :=
  (noEvict_iff_R reqs l).mpr (noEvictR_of_capacity S _ l hnd hsub
    (fun r hr => by obtain ⟨r0, h0, rfl⟩ := List.mem_map.mp hr; exact hS r0 h0) hcap)

end RL
