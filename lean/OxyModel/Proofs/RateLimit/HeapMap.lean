import OxyModel.Proofs.RateLimit.TTL
import OxyModel.Proofs.Heap.Basic

/-! The TTL map together with its expiry heap: the heap always holds exactly the `(key, expiry)` pairs of the
tracked entries in heap order, hence the eviction victim it yields is an entry of minimal expiry. -/
namespace TTL
variable {α : Type}

def items (m : Map α) : List Heap.Item := m.entries.map (fun e => (e.key, e.expiry))

/-- map and heap agree -/
structure Cons (m : HMap α) : Prop where
  nodup : m.map.keys.Nodup
  perm : m.heap.Perm (items m.map)
  inv : Heap.Inv m.heap m.heap.length

theorem items_keys (m : Map α) : (items m).map (·.1) = m.keys := by
  unfold items Map.keys
  rw [List.map_map]; rfl

theorem items_erase (m : Map α) (k : String) :
    items (m.erase k) = (items m).filter (fun y => !(y.1 == k)) := by
  unfold items Map.erase
  simp only
  rw [List.filter_map]
  rfl

theorem perm_items_erase (m : Map α) (hnd : m.keys.Nodup) {x : Heap.Item} {R : List Heap.Item}
    (hp : (x :: R).Perm (items m)) : R.Perm (items (m.erase x.1)) := by
  have hnd' : ((x :: R).map (·.1)).Nodup := (hp.map (·.1)).nodup_iff.2 (items_keys m ▸ hnd)
  have hx : x.1 ∉ R.map (·.1) := (List.nodup_cons.1 hnd').1
  -- the filter drops `x` and keeps all of `R`
  have dropX : (x :: R).filter (fun y => !(y.1 == x.1)) = R.filter (fun y => !(y.1 == x.1)) :=
    List.filter_cons_of_neg (by simp)
  have keepR : R.filter (fun y => !(y.1 == x.1)) = R := by
    rw [List.filter_eq_self]
    intro y hy
    have : y.1 ≠ x.1 := fun e => hx (e ▸ List.mem_map_of_mem hy)
    simpa using this
  have h := hp.filter (fun y => !(y.1 == x.1))
  rw [dropX, keepR] at h
  rw [items_erase]; exact h

theorem top_of_consistent (m : HMap α) (hc : Cons m) (hne : m.map.entries ≠ []) :
    ∃ x, Heap.top m.heap = some x ∧ m.victim = x.1 := by
  cases hh : m.heap with
  | nil =>
    have hlen := hc.perm.length_eq
    rw [hh] at hlen
    exact absurd (List.map_eq_nil_iff.1 (List.eq_nil_of_length_eq_zero hlen.symm)) hne
  | cons x rest => exact ⟨x, rfl, by unfold HMap.victim; rw [hh]; rfl⟩

theorem victim_isMin (m : HMap α) (hc : Cons m) (hne : m.map.entries ≠ []) : m.map.isMin m.victim = true := by
  obtain ⟨x, htop, hv⟩ := top_of_consistent m hc hne
  -- the top is the item of some entry `e`
  obtain ⟨e, he, rfl⟩ := List.mem_map.mp (hc.perm.subset (List.mem_of_getElem? htop))
  have hfind : m.map.find? m.victim = some e := by rw [hv]; exact find?_of_mem m.map hc.nodup e he
  refine (isMin_iff _ _).2 ⟨e, hfind, fun e' he' => ?_⟩
  -- every entry's item is in the heap, hence not below the top
  have hmem : (e'.key, e'.expiry) ∈ m.heap := hc.perm.symm.subset (List.mem_map.mpr ⟨e', he', rfl⟩)
  exact Heap.top_le_all m.heap hc.inv _ htop _ hmem

/-- `heap.Remove` of a tracked key mirrors `delete` -/
theorem removeKey_perm (m : HMap α) (hc : Cons m) (k : String) (e : Entry α) (hf : m.map.find? k = some e) :
    (Heap.removeKey m.heap k).Perm (items (m.map.erase k)) := by
  have hmem : (k, e.expiry) ∈ m.heap := hc.perm.symm.subset
    (List.mem_map.mpr ⟨e, find?_mem m.map k e hf, by rw [find?_key m.map k e hf]⟩)
  -- the heap's item of key `k` is where `indexOf` says
  have hidx : m.heap.findIdx (fun x => x.1 == k) < m.heap.length :=
    List.findIdx_lt_length_of_exists ⟨_, hmem, by simp⟩
  have hkey : (m.heap[m.heap.findIdx (fun x => x.1 == k)]).1 = k := by
    simpa using List.findIdx_getElem (w := hidx)
  have hp := perm_items_erase m.map hc.nodup
    ((Heap.removeAt_perm m.heap _ _ (List.getElem?_eq_getElem hidx)).trans hc.perm)
  rw [hkey] at hp
  unfold Heap.removeKey Heap.indexOf
  rw [if_pos hidx]
  exact hp

theorem pop_perm_erase (m : HMap α) (hc : Cons m) (hne : m.map.entries ≠ []) :
    (Heap.pop m.heap).Perm (items (m.map.erase m.victim)) := by
  obtain ⟨x, htop, hv⟩ := top_of_consistent m hc hne
  rw [hv]
  exact perm_items_erase m.map hc.nodup ((Heap.pop_perm m.heap x htop).trans hc.perm)

theorem HMap.get_fst (m : HMap α) (k : String) (now : Nat) :
    (m.get k now).1 = m ∨
      ∃ e, m.map.find? k = some e ∧ (m.get k now).1 = ⟨m.map.erase k, Heap.removeKey m.heap k⟩ := by
  unfold HMap.get Map.get
  cases hf : m.map.find? k with
  | none => exact .inl rfl
  | some e =>
    by_cases hexp : e.expiry ≤ nowSec now
    · exact .inr ⟨e, rfl, by simp only [if_pos hexp]⟩
    · exact .inl (by simp only [if_neg hexp])

theorem get_consistent (m : HMap α) (hc : Cons m) (k : String) (now : Nat) : Cons (m.get k now).1 := by
  rcases m.get_fst k now with h | ⟨e, hf, h⟩ <;> rw [h]
  · exact hc
  · exact ⟨hc.nodup.sublist (keys_erase_sublist m.map k), removeKey_perm m hc k e hf, Heap.removeKey_inv m.heap k hc.inv⟩

theorem items_add (m : Map α) (e : Entry α) : items (m.add e) = items m ++ [(e.key, e.expiry)] := by
  simp [items, Map.add]

theorem erase_refresh (m : Map α) (k : String) (v : α) (exp : Nat) : (m.refresh k v exp).erase k = m.erase k := by
  unfold Map.refresh Map.erase
  simp only [List.filter_map, Map.mk.injEq, true_and]
  have hp : ((fun e : Entry α => !(e.key == k)) ∘
      fun e => if e.key == k then { e with val := v, expiry := exp } else e) = fun e => !(e.key == k) := by
    funext e; simp only [Function.comp]; split <;> rfl
  rw [hp]
  conv_rhs => rw [← List.map_id (List.filter _ _)]
  -- what survives the filter has another key, so the refresh leaves it alone
  exact List.map_congr_left fun e he => if_neg (by simpa using (List.mem_filter.1 he).2)

theorem items_refresh (m : Map α) (k : String) (v : α) (exp : Nat) (hnd : m.keys.Nodup) (e : Entry α)
    (hf : m.find? k = some e) : (items (m.refresh k v exp)).Perm ((k, exp) :: items (m.erase k)) := by
  have hk := find?_key m k e hf
  have hmem : (k, exp) ∈ items (m.refresh k v exp) :=
    List.mem_map.2 ⟨{ e with val := v, expiry := exp },
      List.mem_map.2 ⟨e, find?_mem m k e hf, by rw [hk, if_pos (beq_self_eq_true _)]⟩, by rw [hk]⟩
  have := perm_items_erase (m.refresh k v exp) (keys_refresh m k v exp ▸ hnd) (List.perm_cons_erase hmem).symm
  rw [erase_refresh] at this
  exact (List.perm_cons_erase hmem).trans (this.cons _)

/-- the heap with the top popped when `set` has to make room -/
theorem room_consistent (m : HMap α) (hc : Cons m) (k : String) :
    Cons ⟨if m.map.evicts k then m.map.erase m.victim else m.map, if m.map.evicts k then Heap.pop m.heap else m.heap⟩ := by
  split
  · rename_i hev
    exact ⟨hc.nodup.sublist (keys_erase_sublist _ _), pop_perm_erase m hc (evicts_ne_nil m.map k hev),
      Heap.pop_length _ ▸ Heap.pop_inv _ hc.inv⟩
  · exact hc

theorem set_consistent (m : HMap α) (hc : Cons m) (k : String) (v : α) (ttl now : Nat) : Cons (m.set k v ttl now) := by
  have hnd := set_keys_nodup m.map k v ttl now m.victim hc.nodup
  unfold HMap.set
  rw [set_eq] at hnd ⊢
  cases hf : m.map.find? k with
  | some e =>
    -- `Update` = `Push` after `Remove`:  heap' ~ (k, exp) :: removeKey heap k ~ (k, exp) :: items (erase k) ~ items (refresh)
    have pushed := Heap.push_perm (Heap.removeKey m.heap k) (k, expiryAt now ttl)
    have removed := (removeKey_perm m hc k e hf).cons (k, expiryAt now ttl)
    have refreshed := items_refresh m.map k v (expiryAt now ttl) hc.nodup e hf
    exact ⟨hf ▸ hnd, (pushed.trans removed).trans refreshed.symm, Heap.update_inv m.heap k _ hc.inv⟩
  | none =>
    have room := room_consistent m hc k
    refine ⟨hf ▸ hnd, ?_, Heap.push_length _ _ ▸ Heap.push_inv _ _ room.inv⟩
    -- `Push` after making room:  heap' ~ (k, exp) :: room's heap ~ (k, exp) :: items room ~ items room ++ [(k, exp)]
    show (Heap.push _ _).Perm (items (Map.add _ _))
    rw [items_add]
    exact ((Heap.push_perm _ _).trans (room.perm.cons _)).trans (List.perm_append_singleton _ _).symm

theorem empty_consistent (capacity : Nat) : Cons (HMap.empty capacity : HMap α) where
  nodup := List.nodup_nil
  perm := List.Perm.nil
  inv := fun k _ hk => absurd hk (Nat.not_lt_zero k)

end TTL
