import OxyModel.Proofs.RateLimit.Bucket
import Mathlib.Data.List.Forall2

/-!
# Token bucket / bucket set

Histories of a bucket and of a set are `Steps` (`run_steps`, `set_steps`: what the C03 window bounds rest on); the
set-level C13 facts — all-or-nothing, floods of refused requests, the advertised delay, idling, an idle bucket is as
good as new — and concrete instances of their hypotheses.
-/
namespace RL

theorem step_is_step (b : Bucket) (t n : Nat) (rb : Bool) : Step b t (b.step t n rb).2 (b.step t n rb).1 := by
  unfold Bucket.step
  cases rb
  · exact consume_step b t n
  · rw [rollback_consume]; exact refill_step b t

theorem run_steps : ∀ (ops : List (Nat × Nat × Bool)) (b : Bucket),
    ∃ b', Steps b (ops.map (·.1)) (b.run ops) b' := by
  intro ops
  induction ops with
  | nil => intro b; exact ⟨b, Steps.nil b⟩
  | cons p ops ih =>
    intro b
    obtain ⟨t, n, rb⟩ := p
    obtain ⟨b', h⟩ := ih (b.step t n rb).1
    exact ⟨b', Steps.cons (step_is_step b t n rb) h⟩

/-- the set's history, seen from any of its buckets -/
theorem set_steps : ∀ (ops : List (Nat × Nat)) (bs : List Bucket) (_ : ∀ b ∈ bs, 0 < b.tpt),
    ∀ b ∈ bs, ∃ b', Steps b (ops.map (·.1)) (admittedSet bs ops) b' := by
  intro ops
  induction ops with
  | nil => intro bs _ b _; exact ⟨b, Steps.nil _⟩
  | cons p ops ih =>
    intro bs htpt b hb
    obtain ⟨t, n⟩ := p
    obtain ⟨f, e, hs⟩ := consumeSet_map bs t n htpt
    have htpt1 : ∀ b1 ∈ (consumeSet bs t n).1, 0 < b1.tpt := by
      rw [e]
      intro b1 hb1
      obtain ⟨b0, hb0, rfl⟩ := List.mem_map.mp hb1
      exact (hs b0 hb0).tpt_eq ▸ htpt b0 hb0
    obtain ⟨b', h⟩ := ih _ htpt1 (f b) (e ▸ List.mem_map_of_mem hb)
    exact ⟨b', Steps.cons (hs b hb) h⟩

theorem admittedOf_runSet (ops : List (Nat × Nat)) : ∀ bs : List Bucket,
    admittedOf ((runSet bs ops).map Resp.ofSRes) ops = admittedSet bs ops := by
  induction ops with
  | nil => intro _; rfl
  | cons op ops ih =>
    intro bs
    obtain ⟨t, n⟩ := op
    unfold runSet admittedSet
    rw [List.map_cons]
    unfold admittedOf
    rw [ih]
    cases (consumeSet bs t n).2 <;> simp [Resp.ofSRes]

/-- C13: an admitted request debits every bucket by exactly n -/
theorem admit_debits_all (bs : List Bucket) (now n : Nat) (htpt : ∀ b ∈ bs, 0 < b.tpt)
    (h : (consumeSet bs now n).2 = .ok) :
    (consumeSet bs now n).1 =
        bs.map (fun b => { b.refill now with avail := (b.refill now).avail - n, lastConsumed := n })
    ∧ ∀ b ∈ bs, n ≤ (b.refill now).avail := by
  have hall := consumeSet_all_of_ok bs now n htpt h
  refine ⟨?_, fun b hb => ((consume_ok_iff b now n).mp (hall b hb)).2⟩
  rw [consumeSet_fst_of_ok bs now n h]
  exact List.map_congr_left fun b hb => by rw [consume_fst, if_pos (hall b hb)]

theorem consumeSet_zero (bs : List Bucket) (t : Nat) :
    consumeSet bs t 0 = (bs.map (fun b => { b.refill t with lastConsumed := 0 }), .ok) := by
  have hok : (consumeSet bs t 0).2 = .ok :=
    consumeSet_ok_of_all bs t 0 (fun b _ => by rw [consume_zero])
  have h1 := consumeSet_fst_of_ok bs t 0 hok
  simp only [consume_zero] at h1
  exact Prod.ext h1 hok

/-- C13 flood: refused requests act as amount-0 requests ("touches") at the same instants -/
theorem flood_as_touches (bs : List Bucket) (flood : List (Nat × Nat))
    (hrej : ∀ r ∈ runSet bs flood, r ≠ .ok) :
    afterSet bs flood = afterSet bs (flood.map (fun p => (p.1, 0))) := by
  induction flood generalizing bs with
  | nil => rfl
  | cons p flood ih =>
    obtain ⟨t, n⟩ := p
    simp only [runSet, List.mem_cons, forall_eq_or_imp] at hrej
    simp only [afterSet, List.map_cons]
    rw [reject_no_debit bs t n hrej.1, consumeSet_zero]
    apply ih
    rw [← reject_no_debit bs t n hrej.1]
    exact hrej.2

/-- `b'` is `b` some refills later: the same parameters, no fewer tokens, within the burst -/
structure NoLoss (b b' : Bucket) : Prop where
  avail_le : b.avail ≤ b'.avail
  within : b'.avail ≤ b'.burst
  burst_eq : b'.burst = b.burst
  tpt_eq : b'.tpt = b.tpt
  period_eq : b'.period = b.period

theorem NoLoss.refl {b : Bucket} (h : b.avail ≤ b.burst) : NoLoss b b := ⟨Nat.le_refl _, h, rfl, rfl, rfl⟩

theorem NoLoss.refill {a b : Bucket} (h : NoLoss a b) (t : Nat) : NoLoss a { b.refill t with lastConsumed := 0 } :=
  have hm := refill_mono b t h.within
  { avail_le := Nat.le_trans h.avail_le hm.1
    within := (refill_burst b t).symm ▸ hm.2
    burst_eq := (refill_burst b t).trans h.burst_eq
    tpt_eq := (refill_tpt b t).trans h.tpt_eq
    period_eq := (refill_period b t).trans h.period_eq }

/-- C13 flood: no bucket loses tokens (or changes its parameters) over a history of refused requests -/
theorem flood_no_drain (flood : List (Nat × Nat)) : ∀ (bs0 bs : List Bucket), List.Forall₂ NoLoss bs0 bs →
    (∀ r ∈ runSet bs flood, r ≠ .ok) → List.Forall₂ NoLoss bs0 (afterSet bs flood) := by
  induction flood with
  | nil => intro bs0 bs h _; exact h
  | cons p flood ih =>
    intro bs0 bs h hrej
    obtain ⟨t, n⟩ := p
    simp only [runSet, List.mem_cons, forall_eq_or_imp] at hrej
    refine ih bs0 _ ?_ hrej.2
    rw [reject_no_debit bs t n hrej.1, List.forall₂_map_right_iff]
    exact h.imp fun _ _ hab => hab.refill t

theorem settled_after_consumeSet (bs : List Bucket) (t n : Nat) :
    ∀ b ∈ (consumeSet bs t n).1, b.refill t = b := by
  intro b hb
  by_cases hok : (consumeSet bs t n).2 = .ok
  · rw [consumeSet_fst_of_ok bs t n hok] at hb
    obtain ⟨b0, _, rfl⟩ := List.mem_map.mp hb
    exact (consume_step b0 t n).settled
  · rw [reject_no_debit bs t n hok] at hb
    obtain ⟨b0, _, rfl⟩ := List.mem_map.mp hb
    exact (refill_step b0 t).settled

theorem lastConsumed_after_reject (bs : List Bucket) (t n : Nat) (h : (consumeSet bs t n).2 ≠ .ok) :
    ∀ b ∈ (consumeSet bs t n).1, b.lastConsumed = 0 := by
  intro b hb
  rw [reject_no_debit bs t n h] at hb
  obtain ⟨b0, _, rfl⟩ := List.mem_map.mp hb
  rfl

/-- `hset`: the set was last touched at `t`, by a refused request -/
theorem flood_same_instant_state (bs : List Bucket) (t : Nat)
    (hset : ∀ b ∈ bs, b.refill t = b ∧ b.lastConsumed = 0)
    (flood : List (Nat × Nat)) (ht : ∀ p ∈ flood, p.1 = t) (hrej : ∀ r ∈ runSet bs flood, r ≠ .ok) :
    afterSet bs flood = bs := by
  induction flood with
  | nil => rfl
  | cons p flood ih =>
    obtain ⟨t1, n⟩ := p
    simp only [runSet, List.mem_cons, forall_eq_or_imp] at hrej ht
    obtain ⟨rfl, ht⟩ := ht
    have hsame : (consumeSet bs t1 n).1 = bs := by
      rw [reject_no_debit bs t1 n hrej.1]
      refine (List.map_congr_left fun b hb => ?_).trans (List.map_id bs)
      rw [(hset b hb).1, ← (hset b hb).2]
      rfl
    simp only [afterSet]
    rw [hsame] at hrej ⊢
    exact ih ht hrej.2

/-- `consume` at `t` does not see that the bucket was refilled at `t` just before -/
theorem consume_touch (b : Bucket) (t n : Nat) :
    ({ b.refill t with lastConsumed := 0 } : Bucket).consume t n = b.consume t n := by
  rw [consume_set_lastConsumed]
  exact consume_congr n (by rw [refill_idem])

theorem consumeSet_touch (bs : List Bucket) (t n : Nat) :
    consumeSet (bs.map fun b => { b.refill t with lastConsumed := 0 }) t n = consumeSet bs t n := by
  apply consumeSet_congr
  rw [List.map_map]
  exact List.map_congr_left fun b _ => consume_touch b t n

/-- C13: at one instant a flood of refused requests is invisible, from any state of the set -/
theorem flood_same_instant (t : Nat) (flood : List (Nat × Nat)) (ht : ∀ p ∈ flood, p.1 = t) (n' : Nat) :
    ∀ bs : List Bucket, (∀ r ∈ runSet bs flood, r ≠ .ok) →
    consumeSet (afterSet bs flood) t n' = consumeSet bs t n' := by
  induction flood with
  | nil => intro _ _; rfl
  | cons p flood ih =>
    intro bs hrej
    obtain ⟨t1, n⟩ := p
    simp only [runSet, List.mem_cons, forall_eq_or_imp] at hrej ht
    obtain ⟨rfl, ht⟩ := ht
    show consumeSet (afterSet (consumeSet bs t1 n).1 flood) t1 n' = _
    rw [ih ht _ hrej.2, reject_no_debit bs t1 n hrej.1, consumeSet_touch]

/-- C13: the advertised delay suffices -/
theorem delay_sufficient (bs : List Bucket) (now n d : Nat) (hwf : ∀ b ∈ bs, b.WF now)
    (h : (consumeSet bs now n).2 = .delay d) (t' : Nat) (ht : now + d ≤ t') :
    (consumeSet (consumeSet bs now n).1 t' n).2 = .ok := by
  obtain ⟨_, hburst, hmax, _⟩ := consumeSet_delay bs now n d h
  rw [reject_no_debit bs now n (by rw [h]; exact nofun)]
  apply consumeSet_ok_of_all
  intro b1 hb1
  obtain ⟨b, hb, rfl⟩ := List.mem_map.mp hb1
  rw [consume_set_lastConsumed, consume_ok_iff, refill_burst]
  refine ⟨hburst b hb, ?_⟩
  -- the refilled bucket lacks `k = n - avail` tokens, and the advertised delay covers `k` token intervals
  have hk : now + (n - (b.refill now).avail) * (b.refill now).tpt ≤ t' := by
    by_cases hav : n ≤ (b.refill now).avail
    · rw [Nat.sub_eq_zero_of_le hav, Nat.zero_mul]
      omega
    · have := hmax b hb _ ((consume_delay_iff b now n _).mpr ⟨hburst b hb, Nat.lt_of_not_le hav, rfl⟩)
      rw [refill_tpt]
      omega
  have hg := refill_gains (b.refill now) now t' _ (refilled (hwf b hb)).wf hk
  rw [refill_burst] at hg
  have := hburst b hb
  omega

/-- C13: idle for burst·tpt ⇒ full -/
theorem idle_full_burst (b : Bucket) (t0 now : Nat) (hb : b.WF t0) (h : t0 + b.burst * b.tpt ≤ now) :
    (b.refill now).avail = b.burst := by
  have hle := (refill_mono b now hb.avail_le).2
  have hge := refill_gains b t0 now b.burst hb h
  omega

theorem idle_admits (bs : List Bucket) (t0 now n : Nat) (hwf : ∀ b ∈ bs, b.WF t0)
    (hidle : ∀ b ∈ bs, t0 + b.burst * b.tpt ≤ now) (hn : ∀ b ∈ bs, n ≤ b.burst) :
    (consumeSet bs now n).2 = .ok := by
  apply consumeSet_ok_of_all
  intro b hb
  rw [consume_ok_iff, idle_full_burst b t0 now (hwf b hb) (hidle b hb)]
  exact ⟨hn b hb, hn b hb⟩

theorem new_admits (rates : List Rate) (t n : Nat) (hn : ∀ r ∈ rates, n ≤ r.burst) :
    (consumeSet (BucketSet.new rates t).buckets t n).2 = .ok := by
  apply consumeSet_ok_of_all
  intro b hb
  unfold BucketSet.new at hb
  simp only [List.mem_map] at hb
  obtain ⟨r, hr, rfl⟩ := hb
  rw [consume_ok_iff]
  exact ⟨hn r hr, Nat.le_trans (hn r hr) (refill_mono (mkBucket r t) t (Nat.le_refl _)).1⟩

/-- a bucket of the configured rate `r`, last refreshed no later than `tl` -/
def Matches (tl : Nat) (b : Bucket) (r : Rate) : Prop :=
  b.period = r.period ∧ b.tpt = tptOf r.period r.average ∧ b.burst = r.burst ∧ b.avail ≤ b.burst ∧ b.lr ≤ tl

section
variable {tl : Nat} {b : Bucket} {r : Rate} (h : Matches tl b r)
include h
theorem Matches.period_eq : b.period = r.period := h.1
theorem Matches.tpt_eq : b.tpt = tptOf r.period r.average := h.2.1
theorem Matches.burst_eq : b.burst = r.burst := h.2.2.1
theorem Matches.avail_le : b.avail ≤ b.burst := h.2.2.2.1
theorem Matches.lr_le : b.lr ≤ tl := h.2.2.2.2
end

theorem Matches.wf {tl t : Nat} {b : Bucket} {r : Rate} (h : Matches tl b r) (hle : tl ≤ t) : b.WF t :=
  ⟨h.tpt_eq ▸ tptOf_pos _ _, h.avail_le, Nat.le_trans h.lr_le hle⟩

theorem Matches.step {tl now d : Nat} {b b' : Bucket} {r : Rate} (h : Matches tl b r) (hle : tl ≤ now)
    (s : Step b now d b') (hp : b'.period = b.period) : Matches now b' r := by
  obtain ⟨w, _⟩ := step_spec (h.wf hle) s
  exact ⟨hp.trans h.period_eq, s.tpt_eq.trans h.tpt_eq, s.burst_eq.trans h.burst_eq, w.avail_le, w.lr_le⟩

theorem consume_idle_eq_fresh {b : Bucket} {r : Rate} {t0 : Nat} (hm : Matches t0 b r) (hp : r.period ≠ 0)
    (hpos : 0 < r.burst) (now n : Nat) (h : t0 + b.burst * b.tpt ≤ now) :
    b.consume now n = (mkBucket r now).consume now n := by
  apply consume_congr
  rw [refill_idle b t0 now (hm.wf (Nat.le_refl _)) (hm.burst_eq ▸ hpos) h,
    refill_eq_self (b := mkBucket r now) (by simp [mkBucket]) (Nat.le_refl _)]
  simp only [mkBucket, if_neg hp, hm.period_eq, hm.tpt_eq, hm.burst_eq]

/-- a set of buckets of the configured rates, all idle long enough, behaves like a new set -/
theorem consumeSet_fresh_of_idle {bs : List Bucket} {rates : List Rate} {t0 now : Nat} (n : Nat)
    (hrel : List.Forall₂ (fun b r => Matches t0 b r ∧ r.period ≠ 0 ∧ 0 < r.burst ∧ t0 + b.burst * b.tpt ≤ now) bs rates) :
    consumeSet bs now n = consumeSet (rates.map (fun r => mkBucket r now)) now n := by
  apply consumeSet_congr
  induction hrel with
  | nil => rfl
  | cons hbr _ ih =>
    obtain ⟨hm, hp, hpos, hidle⟩ := hbr
    rw [List.map_cons, List.map_cons, List.map_cons, ih, consume_idle_eq_fresh hm hp hpos now n hidle]

theorem consumeSet_idle_eq_fresh (bs : List Bucket) (rates : List Rate) (t0 now n : Nat)
    (hrel : List.Forall₂ (fun (b : Bucket) (r : Rate) =>
      r.period ≠ 0 ∧ b.period = r.period ∧ b.tpt = tptOf r.period r.average ∧ b.burst = r.burst ∧
      b.avail ≤ b.burst ∧ b.lr ≤ t0 ∧ 0 < r.burst ∧ t0 + b.burst * b.tpt ≤ now) bs rates) :
    consumeSet bs now n = consumeSet (rates.map (fun r => mkBucket r now)) now n :=
  consumeSet_fresh_of_idle n (hrel.imp fun _ _ ⟨hp, hper, htpt, hburst, hav, hlr, hpos, hidle⟩ =>
    ⟨⟨hper, htpt, hburst, hav, hlr⟩, hp, hpos, hidle⟩)

/-! ### the hypotheses are satisfiable: concrete instances -/

def exFull : Bucket := { period := 1000, tpt := 100, burst := 5, avail := 5, lr := 0, lastConsumed := 0 }
def exEmpty : Bucket := { period := 1000, tpt := 100, burst := 5, avail := 0, lr := 0, lastConsumed := 0 }
def exSlow : Bucket := { period := 5000, tpt := 1000, burst := 3, avail := 3, lr := 0, lastConsumed := 0 }

-- window bound: the `+ 1` is attained (the refresh stamp may lag the clock by up to `tpt − 1`)
example : exFull.WF 99 := by decide +kernel
-- `SortedFrom` is a recursive `Prop` without a `Decidable` instance: it is stated unfolded and decided
example : SortedFrom 99 ([(99, 5, false), (100, 1, false)].map (·.1)) :=
  show 99 ≤ 99 ∧ 99 ≤ 100 ∧ True from by decide
example : windowSum (exFull.run [(99, 5, false), (100, 1, false)]) 0 1 = 6 := by decide +kernel
example : admittedSet [exFull, exSlow] [(0, 3), (10, 1), (1000, 1)] = [3, 0, 1] ∧
    runSet [exFull, exSlow] [(0, 3), (10, 1), (1000, 2), (1000, 4)] = [.ok, .delay 1000, .delay 1000, .err] := by
  decide +kernel

example : (consumeSet [exFull, exSlow] 0 4).2 = .err ∧ (consumeSet [exFull, exEmpty] 0 4).2 = .delay 400 ∧
    (consumeSet [exFull, exSlow] 0 3).2 = .ok := by decide +kernel
example : (consumeSet [exFull, exEmpty] 50 4).1 = [exFull, exEmpty] :=
  (reject_no_debit [exFull, exEmpty] 50 4 (by decide +kernel)).trans (by decide +kernel)
example : ∀ b ∈ [exFull, exSlow], 3 ≤ (b.refill 0).avail :=
  (admit_debits_all [exFull, exSlow] 0 3 (by decide +kernel) (by decide +kernel)).2

example : ∀ r ∈ runSet [exEmpty] [(150, 5), (160, 5), (310, 4)], r ≠ .ok := by decide +kernel
example : afterSet [exEmpty] [(150, 5), (160, 5), (310, 4)] = afterSet [exEmpty] [(150, 0), (160, 0), (310, 0)] :=
  flood_as_touches [exEmpty] _ (by decide +kernel)
example : ∀ b ∈ (consumeSet [exEmpty] 150 5).1, b.refill 150 = b ∧ b.lastConsumed = 0 := by decide +kernel
example : afterSet (consumeSet [exEmpty] 150 5).1 [(150, 5), (150, 3)] = (consumeSet [exEmpty] 150 5).1 :=
  flood_same_instant_state _ 150 (by decide +kernel) [(150, 5), (150, 3)] (by decide +kernel) (by decide +kernel)

/-- a refused request CAN change a later outcome — through the remainder of the division that the
    refill it triggers drops (`lastRefresh` jumps to `now`): alone, 2 tokens are available at 200; after a
    refused request at 150 (which credits 1 token and forgets the 50 ns already waited towards the
    second) they are not. -/
theorem flood_remainder_witness :
    (consumeSet [exEmpty] 200 2).2 = .ok ∧
    (consumeSet [exEmpty] 150 5).2 = .delay 400 ∧
    (consumeSet (consumeSet [exEmpty] 150 5).1 200 2).2 = .delay 100 := by decide +kernel

example : (consumeSet [exEmpty] 150 5).2 = .delay 400 ∧ ∀ b ∈ [exEmpty], b.WF 150 := by decide +kernel
example : (consumeSet (consumeSet [exEmpty] 150 5).1 550 5).2 = .ok :=
  delay_sufficient [exEmpty] 150 5 400 (by decide +kernel) (by decide +kernel) 550 (by omega)

example : (consumeSet [exEmpty, exSlow] 3000 3).2 = .ok :=
  idle_admits [exEmpty, exSlow] 0 3000 3 (by decide +kernel) (by decide +kernel) (by decide +kernel)
example : (consumeSet [exEmpty, exSlow] 3000 4).2 = .err :=
  (consumeSet_err_iff _ _ _).mpr ⟨exSlow, by simp, by decide +kernel⟩

example : exEmpty.consume 500 2 = (mkBucket { period := 1000, average := 10, burst := 5 } 500).consume 500 2 :=
  consume_idle_eq_fresh (t0 := 0) ⟨rfl, by decide +kernel, rfl, by decide +kernel, by decide +kernel⟩
    (by decide +kernel) (by decide +kernel) 500 2 (by decide +kernel)

end RL
