import OxyModel.Proofs.RateLimit.PerRequest
import OxyModel.Proofs.RateLimit.SetProps

/-! A bucket of a configured rate (`Matches`) stays one under every step of a history; a tracked entry holds one such
bucket per rate (`EntryInv`).  On top of that the limiter refines a never-expiring bucket set per source
(C03_limiter_refines_set): forgetting an entry is unobservable when the burst refills within the time an idle entry
is remembered. -/
namespace RL
open TTL

theorem forall₂_mem_left {α β : Type} (R : α → β → Prop) (l1 : List α) (l2 : List β) (h : List.Forall₂ R l1 l2) :
    ∀ a ∈ l1, ∃ b ∈ l2, R a b := by
  intro a ha
  obtain ⟨i, hi, rfl⟩ := List.mem_iff_getElem.mp ha
  exact ⟨l2[i]'(h.length_eq ▸ hi), List.getElem_mem _, h.get hi _⟩

theorem forall₂_mem_right {α β : Type} (R : α → β → Prop) (l1 : List α) (l2 : List β) (h : List.Forall₂ R l1 l2) :
    ∀ b ∈ l2, ∃ a ∈ l1, R a b :=
  forall₂_mem_left (flip R) l2 l1 h.flip

/-- a related pair may also use that its right component is in the right list -/
theorem forall₂_imp_mem {α β : Type} {R S : α → β → Prop} {l1 : List α} {l2 : List β} (h : List.Forall₂ R l1 l2)
    (hf : ∀ a b, b ∈ l2 → R a b → S a b) : List.Forall₂ S l1 l2 := by
  induction h with
  | nil => exact .nil
  | cons hab _ ih =>
    exact .cons (hf _ _ List.mem_cons_self hab) (ih fun a b hb => hf a b (List.mem_cons_of_mem _ hb))

theorem matches_consumeSet (tl now n : Nat) (bs : List Bucket) (rates : List Rate)
    (h : List.Forall₂ (Matches tl) bs rates) (hle : tl ≤ now) :
    List.Forall₂ (Matches now) (consumeSet bs now n).1 rates := by
  by_cases hok : (consumeSet bs now n).2 = .ok
  · rw [consumeSet_fst_of_ok bs now n hok, List.forall₂_map_left_iff]
    exact h.imp fun b _ hab => hab.step hle (consume_step b now n) (consume_fst_period b now n)
  · rw [reject_no_debit bs now n hok, List.forall₂_map_left_iff]
    exact h.imp fun b _ hab => hab.step hle (refill_step b now) (refill_period b now)

theorem matches_wf (tl t : Nat) (bs : List Bucket) (rates : List Rate) (h : List.Forall₂ (Matches tl) bs rates)
    (hle : tl ≤ t) : ∀ b ∈ bs, b.WF t := fun b hb =>
  let ⟨_, _, hm⟩ := forall₂_mem_left _ _ _ h b hb
  hm.wf hle

theorem matches_bursts (tl : Nat) (bs : List Bucket) (rates : List Rate) (h : List.Forall₂ (Matches tl) bs rates) (n : Nat) :
    (∀ b ∈ bs, n ≤ b.burst) ↔ (∀ r ∈ rates, n ≤ r.burst) := by
  constructor
  · intro hb r hr
    obtain ⟨b, hbm, hm⟩ := forall₂_mem_right _ _ _ h r hr
    rw [← hm.burst_eq]; exact hb b hbm
  · intro hr b hb
    obtain ⟨r, hrm, hm⟩ := forall₂_mem_left _ _ _ h b hb
    rw [hm.burst_eq]; exact hr r hrm

theorem lookup_of_mem (rates : List Rate) (hnd : (rates.map (·.period)).Nodup) (r : Rate) (hr : r ∈ rates) :
    lookupRate rates r.period = some r := by
  unfold lookupRate
  induction rates with
  | nil => simp at hr
  | cons x xs ih =>
    simp only [List.map_cons, List.nodup_cons] at hnd
    rcases List.mem_cons.mp hr with rfl | hr'
    · rw [List.find?_cons_of_pos (by simp)]
    · have hne : ¬ x.period = r.period := by
        intro he
        apply hnd.1
        rw [he]
        exact List.mem_map_of_mem hr'
      rw [List.find?_cons_of_neg (by simp [hne])]
      exact ih hnd.2 hr'

theorem update_matches (tl : Nat) (b : Bucket) (r : Rate) (h : Matches tl b r) : b.update r = b := by
  have e1 : tptOf b.period r.average = b.tpt := by rw [h.period_eq]; exact h.tpt_eq.symm
  have hav := h.avail_le
  have hburst := h.burst_eq
  unfold Bucket.update
  rw [if_neg (Decidable.not_not.mpr h.period_eq.symm), if_neg (by simp only; omega), e1, ← hburst]

theorem matches_periods (tl : Nat) (bs : List Bucket) (rates : List Rate) (h : List.Forall₂ (Matches tl) bs rates) :
    bs.map (·.period) = rates.map (·.period) := by
  induction h with
  | nil => rfl
  | cons hab _ ih => simp only [List.map_cons, ih, hab.period_eq]

theorem update_same (tl now : Nat) (s : BucketSet) (rates : List Rate)
    (hm : List.Forall₂ (Matches tl) s.buckets rates) (hnd : (rates.map (·.period)).Nodup)
    (hmp : s.maxPeriod = maxPeriodOf (rates.map (·.period))) :
    s.update rates now = s := by
  have hkept : s.buckets.filterMap (fun b => (lookupRate rates b.period).map (fun r => b.update r)) = s.buckets := by
    have : ∀ b ∈ s.buckets, (lookupRate rates b.period).map (fun r => b.update r) = some b := by
      intro b hb
      obtain ⟨r, hr, hbr⟩ := forall₂_mem_left _ _ _ hm b hb
      rw [hbr.period_eq, lookup_of_mem rates hnd r hr]
      simp [update_matches tl b r hbr]
    rw [List.filterMap_congr this]
    exact List.filterMap_some
  unfold BucketSet.update
  simp only [hkept]
  have hadd : rates.filter (fun r => !(s.buckets.any (fun b => b.period == r.period))) = [] := by
    rw [List.filter_eq_nil_iff]
    intro r hr
    obtain ⟨b, hb, hbr⟩ := forall₂_mem_right _ _ _ hm r hr
    simp only [Bool.not_eq_true', Bool.not_eq_false, List.any_eq_true, beq_iff_eq]
    exact ⟨b, hb, hbr.period_eq⟩
  rw [hadd]
  simp only [List.map_nil, List.append_nil]
  rw [matches_periods tl _ _ hm, ← hmp]

/-- invariant of a tracked entry: it holds exactly the reference bucket set, was last used at `tl` -/
def EntryInv (rates : List Rate) (e : Entry BucketSet) (tl : Nat) : Prop :=
  e.val.maxPeriod = maxPeriodOf (rates.map (·.period)) ∧
  e.expiry = expiryAt tl (maxPeriodOf (rates.map (·.period)) / second * 10 + 1) ∧
  List.Forall₂ (Matches tl) e.val.buckets rates

section
variable {rates : List Rate} {e : Entry BucketSet} {tl : Nat} (h : EntryInv rates e tl)
include h
theorem EntryInv.maxPeriod_eq : e.val.maxPeriod = maxPeriodOf (rates.map (·.period)) := h.1
theorem EntryInv.expiry_eq : e.expiry = expiryAt tl (maxPeriodOf (rates.map (·.period)) / second * 10 + 1) := h.2.1
theorem EntryInv.buckets : List.Forall₂ (Matches tl) e.val.buckets rates := h.2.2
end

/-- the per-entry half of `LimiterInv`: the entry, if tracked, satisfies `EntryInv` for some time of last use `≤ t` -/
def TrackedInv (rates : List Rate) (e : Option (Entry BucketSet)) (t : Nat) : Prop :=
  ∀ e', e = some e' → ∃ tl, tl ≤ t ∧ EntryInv rates e' tl

/-- a rate set as `RateSet.Add` builds it: every rate passes its checks, one rate per period -/
structure ValidRates (rates : List Rate) : Prop where
  valid : ∀ r ∈ rates, r.valid = true
  nodup : (rates.map (·.period)).Nodup

/-- `ValidRates`, and every burst refills within the time an idle entry is remembered -/
structure GoodRates (rates : List Rate) : Prop where
  valid : ∀ r ∈ rates, r.valid = true
  nodup : (rates.map (·.period)).Nodup
  refill : RefillWithinTTL rates

theorem GoodRates.toValid {rates : List Rate} (h : GoodRates rates) : ValidRates rates := ⟨h.valid, h.nodup⟩

theorem valid_facts (r : Rate) (h : r.valid = true) : r.period ≠ 0 ∧ 0 < r.average ∧ 0 < r.burst := by
  unfold Rate.valid at h
  simp only [Bool.and_eq_true, decide_eq_true_eq] at h
  omega

theorem le_foldl_max (p : Nat) : ∀ (l : List Nat) (m : Nat), p ≤ m ∨ p ∈ l →
    p ≤ l.foldl (fun m p => if m > p then m else p) m
  | [], _, h => h.elim id nofun
  | x :: xs, m, h => by
    refine le_foldl_max p xs (if m > x then m else x) ?_
    rcases h with h | h
    · left; split <;> omega
    · rcases List.mem_cons.mp h with rfl | h
      · left; split <;> omega
      · exact Or.inr h

theorem maxPeriodOf_ge (ps : List Nat) (p : Nat) (hp : p ∈ ps) : p ≤ maxPeriodOf ps :=
  le_foldl_max p ps 0 (Or.inr hp)

theorem mkBucket_matches (r : Rate) (now : Nat) (hp : r.period ≠ 0) : Matches now (mkBucket r now) r := by
  have hper : (mkBucket r now).period = r.period := if_neg hp
  exact ⟨hper, congrArg (tptOf · r.average) hper, rfl, Nat.le_refl _, Nat.le_refl _⟩

theorem new_matches (rates : List Rate) (now : Nat) (hp : ∀ r ∈ rates, r.period ≠ 0) :
    List.Forall₂ (Matches now) (BucketSet.new rates now).buckets rates := by
  unfold BucketSet.new
  simp only
  induction rates with
  | nil => exact List.Forall₂.nil
  | cons r rs ih =>
    exact List.Forall₂.cons (mkBucket_matches r now (hp r List.mem_cons_self))
      (ih (fun r hr => hp r (List.mem_cons_of_mem _ hr)))

theorem currentOf_matches (rates : List Rate) (hv : ValidRates rates) (e : Option (Entry BucketSet)) (t : Nat)
    (he : TrackedInv rates e t) :
    (currentOf e t rates).maxPeriod = maxPeriodOf (rates.map (·.period)) ∧
    ∃ tl, tl ≤ t ∧ List.Forall₂ (Matches tl) (currentOf e t rates).buckets rates := by
  have hnew : (BucketSet.new rates t).maxPeriod = maxPeriodOf (rates.map (·.period)) ∧
      ∃ tl, tl ≤ t ∧ List.Forall₂ (Matches tl) (BucketSet.new rates t).buckets rates :=
    ⟨rfl, t, Nat.le_refl _, new_matches rates t fun r hr => (valid_facts r (hv.valid r hr)).1⟩
  cases e with
  | none => exact hnew
  | some e' =>
    obtain ⟨tl, htl, hi⟩ := he e' rfl
    by_cases hexp : e'.expiry ≤ nowSec t
    · rw [currentOf_expired hexp]
      exact hnew
    · rw [currentOf_live hexp, update_same tl t e'.val rates hi.buckets hv.nodup hi.maxPeriod_eq]
      exact ⟨hi.maxPeriod_eq, tl, htl, hi.buckets⟩

theorem serveEntry_inv (rates : List Rate) (hv : ValidRates rates) (e : Option (Entry BucketSet)) (t : Nat) (s : String) (n : Nat)
    (he : TrackedInv rates e t) :
    EntryInv rates (serveEntry rates e t s n []).1 t := by
  obtain ⟨h1, tl, htl, h2⟩ := currentOf_matches rates hv e t he
  have httl : ttlOf (currentOf e t rates) = maxPeriodOf (rates.map (·.period)) / second * 10 + 1 := by
    unfold ttlOf; rw [h1]
  exact ⟨h1, congrArg (expiryAt t) httl, matches_consumeSet tl t n _ _ h2 htl⟩

theorem sortedFrom_weaken {t0 t1 : Nat} (h : t0 ≤ t1) : ∀ (ts : List Nat), SortedFrom t1 ts → SortedFrom t0 ts
  | [], _ => trivial
  | _ :: _, hs => ⟨Nat.le_trans h hs.1, hs.2⟩

theorem sortedFrom_sublist {l' l : List Nat} (hsub : l'.Sublist l) : ∀ t0, SortedFrom t0 l → SortedFrom t0 l' := by
  induction hsub with
  | slnil => exact fun _ h => h
  | cons _ _ ih => exact fun t0 h => ih t0 (sortedFrom_weaken h.1 _ h.2)
  | cons_cons _ _ ih => exact fun t0 h => ⟨h.1, ih _ h.2⟩

theorem sorted_opsOf (s : String) (reqs : List Req) (t0 : Nat) (h : SortedFrom t0 (reqs.map (·.t))) :
    SortedFrom t0 ((opsOf s reqs).map (·.1)) := by
  unfold opsOf
  rw [List.map_map]
  exact sortedFrom_sublist (List.filter_sublist.map _) t0 h

/-- found expired ⇒ idle for at least `10·k` seconds (`k * 10 + 1` is the entry's `ttlOf`): the reading of the TTL in
    `RefillWithinTTL` -/
theorem idle_of_expired (tl t k : Nat) (h : expiryAt tl (k * 10 + 1) ≤ nowSec t) : tl + 10 * k * second ≤ t := by
  rw [expiryAt_eq] at h
  unfold nowSec at h
  unfold second
  omega

/-- also when the entry has expired: a new set then behaves like the tracked one -/
theorem serveEntry_some (rates : List Rate) (hg : GoodRates rates) (s : String) (e : Entry BucketSet) (tl t n : Nat)
    (hinv : EntryInv rates e tl) (hle : tl ≤ t) :
    (serveEntry rates (some e) t s n []).2 = Resp.ofSRes (consumeSet e.val.buckets t n).2 ∧
    (serveEntry rates (some e) t s n []).1.val.buckets = (consumeSet e.val.buckets t n).1 ∧
    EntryInv rates (serveEntry rates (some e) t s n []).1 t := by
  have hcur : consumeSet (currentOf (some e) t rates).buckets t n = consumeSet e.val.buckets t n := by
    by_cases hexp : e.expiry ≤ nowSec t
    · -- expired: every bucket has been idle long enough to be as good as new
      rw [currentOf_expired hexp]
      refine (consumeSet_fresh_of_idle (t0 := tl) (now := t) n (forall₂_imp_mem hinv.buckets fun b r hr hm => ?_)).symm
      obtain ⟨hp, _, hb⟩ := valid_facts r (hg.valid r hr)
      refine ⟨hm, hp, hb, ?_⟩
      rw [hm.burst_eq, hm.tpt_eq]
      exact Nat.le_trans (Nat.add_le_add_left (hg.refill r hr) tl) (idle_of_expired tl t _ (hinv.expiry_eq ▸ hexp))
    · rw [currentOf_live hexp, update_same tl t e.val rates hinv.buckets hg.nodup hinv.maxPeriod_eq]
  rw [serveEntry_resp, serveEntry_buckets, hcur]
  exact ⟨rfl, rfl, serveEntry_inv rates hg.toValid (some e) t s n fun e' h => ⟨tl, hle, Option.some.inj h ▸ hinv⟩⟩

theorem entryRun_some (rates : List Rate) (hg : GoodRates rates) (s : String) (ops : List (Nat × Nat)) :
    ∀ (e : Entry BucketSet) (tl : Nat), EntryInv rates e tl → SortedFrom tl (ops.map (·.1)) →
    entryRun rates s (some e) ops = (runSet e.val.buckets ops).map Resp.ofSRes := by
  induction ops with
  | nil => intro _ _ _ _; rfl
  | cons op ops ih =>
    intro e tl hinv hs
    obtain ⟨t, n⟩ := op
    obtain ⟨h1, h2, h3⟩ := serveEntry_some rates hg s e tl t n hinv hs.1
    unfold entryRun runSet
    rw [List.map_cons, h1, ih _ t h3 hs.2, h2]

/-- **refinement**: the decisions computed from an untracked source's own requests are those of a
    bucket set created at its first request and never forgotten -/
theorem entryRun_none (rates : List Rate) (hg : GoodRates rates) (s : String) (ops : List (Nat × Nat))
    (t0 : Nat) (hs : SortedFrom t0 (ops.map (·.1))) :
    entryRun rates s none ops = refRun rates ops := by
  cases ops with
  | nil => rfl
  | cons op ops =>
    obtain ⟨t, n⟩ := op
    unfold entryRun
    rw [entryRun_some rates hg s ops _ t (serveEntry_inv rates hg.toValid none t s n nofun) hs.2,
      serveEntry_resp, serveEntry_buckets]
    rfl

end RL
