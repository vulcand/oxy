import OxyModel.Proofs.Pool.Bal

/-! Selection and `ServeHTTP` routing on the balancer with a heap.  Both hand out a copy: a fresh
object is allocated (`alloc`), which leaves the balancer well-formed and its stored URLs untouched.
`nextServer` and `route` are given by one equation per outcome. -/
namespace PoolM.Bal
open RR PoolM

theorem deref_mem {b : Bal} {r : Ref} (hr : r ∈ b.refs) : b.deref r ∈ b.urls := List.mem_map.mpr ⟨r, hr, rfl⟩

theorem deref_sel {b : Bal} (h : b.WF) {i : Nat} (hn : (next b.ws b.it).1 = .sel i) :
    b.deref (b.refs.getD i 0) = b.urls.getD i default ∧ b.urls.getD i default ∈ b.urls := by
  have hi : i < b.refs.length := by
    rw [← h.len]; exact next_sel_lt (s' := (next b.ws b.it).2) (by rw [← hn])
  have hu : i < b.urls.length := by rw [urls_length]; exact hi
  have e : b.urls.getD i default = b.urls[i] := by rw [List.getD_eq_getElem?_getD, List.getElem?_eq_getElem hu]; rfl
  refine ⟨?_, e ▸ List.getElem_mem hu⟩
  rw [e, List.getD_eq_getElem?_getD, List.getElem?_eq_getElem hi]
  exact (List.getElem_map b.deref).symm

theorem nextServer_sel {b : Bal} (h : b.WF) {i : Nat} (hn : (next b.ws b.it).1 = .sel i) :
    b.nextServer = (.sel i, some b.heap.length, b.alloc (b.urls.getD i default) (next b.ws b.it).2) := by
  rw [← (deref_sel h hn).1]
  unfold Bal.nextServer
  simp only [Pool.nextServer, view_ws, view_it]
  rw [hn]
  rfl

theorem _root_.RR.Res.not_sel {r : Res} (h : ∀ i, r ≠ .sel i) :
    r = .errNoServers ∨ r = .errAllZero ∨ r = .outOfFuel := by
  cases r with
  | sel i => exact absurd rfl (h i)
  | errNoServers => exact Or.inl rfl
  | errAllZero => exact Or.inr (Or.inl rfl)
  | outOfFuel => exact Or.inr (Or.inr rfl)

theorem nextServer_err {b : Bal} (hn : ∀ i, (next b.ws b.it).1 ≠ .sel i) :
    b.nextServer = ((next b.ws b.it).1, none, { b with it := (next b.ws b.it).2 }) := by
  unfold Bal.nextServer
  dsimp only [Pool.nextServer, view_ws, view_it]
  -- every result but a selection takes the catch-all arm of the `match`
  generalize (next b.ws b.it).1 = r at hn ⊢
  rcases Res.not_sel hn with rfl | rfl | rfl <;> rfl

theorem findRef_spec {b : Bal} {k : Key} {src : Ref} (h : b.findRef k = some src) :
    src ∈ b.refs ∧ (b.deref src).key = k := by
  unfold Bal.findRef at h
  cases hf : b.view.find k with
  | none => rw [hf] at h; cases h
  | some i =>
    rw [hf] at h
    simp only [Option.some.injEq] at h
    obtain ⟨hl, hk, _⟩ := Pool.find_some.mp hf
    have hl' : i < b.refs.length := by rw [← view_keys_length]; exact hl
    have hs : src = b.refs[i] := by rw [← h]; simp [List.getD_eq_getElem?_getD, hl']
    refine ⟨hs ▸ List.getElem_mem hl', ?_⟩
    rw [hs]
    exact (view_keys_getElem b hl).symm.trans hk

theorem findRef_none {b : Bal} {k : Key} : b.findRef k = none ↔ k ∉ b.view.keys := by
  rw [← Pool.find_none]; unfold Bal.findRef; cases b.view.find k <;> simp

/-- the sticky lookup of `route` -/
def stuckRef (b : Bal) (sticky : Bool) (cookie : Option Key) : Option Ref :=
  if sticky then (match cookie with | some k => b.findRef k | none => none) else none

theorem stuckRef_mem {b : Bal} {sticky : Bool} {cookie : Option Key} {src : Ref}
    (hs : b.stuckRef sticky cookie = some src) : src ∈ b.refs := by
  unfold stuckRef at hs
  split at hs
  · split at hs
    · exact (findRef_spec hs).1
    · cases hs
  · cases hs

theorem stuckRef_none {b : Bal} {sticky : Bool} {cookie : Option Key}
    (h : sticky = true → ∀ k, cookie = some k → k ∉ b.view.keys) : b.stuckRef sticky cookie = none := by
  unfold stuckRef
  split
  · rename_i hs
    split
    · rename_i k; exact findRef_none.mpr (h hs k rfl)
    · rfl
  · rfl

theorem route_eq (b : Bal) (sticky : Bool) (cookie : Option Key) :
    b.route sticky cookie = match b.stuckRef sticky cookie with
      | some src => (.fwd b.heap.length true, b.alloc (b.deref src) b.it)
      | none =>
        match b.nextServer with
        | (.sel _, some r, b') => (.fwd r false, b')
        | (e, _, b') => (.err e, b') := rfl

theorem route_stuck {b : Bal} {sticky : Bool} {cookie : Option Key} {src : Ref}
    (hs : b.stuckRef sticky cookie = some src) :
    b.route sticky cookie = (.fwd b.heap.length true, b.alloc (b.deref src) b.it) := by
  rw [route_eq, hs]

theorem route_sel {b : Bal} (h : b.WF) {sticky : Bool} {cookie : Option Key} (hs : b.stuckRef sticky cookie = none)
    {i : Nat} (hn : (next b.ws b.it).1 = .sel i) :
    b.route sticky cookie = (.fwd b.heap.length false, b.alloc (b.urls.getD i default) (next b.ws b.it).2) := by
  rw [route_eq, hs]
  simp only
  rw [nextServer_sel h hn]

theorem route_err {b : Bal} {sticky : Bool} {cookie : Option Key} (hs : b.stuckRef sticky cookie = none)
    (hn : ∀ i, (next b.ws b.it).1 ≠ .sel i) :
    b.route sticky cookie = (.err (next b.ws b.it).1, { b with it := (next b.ws b.it).2 }) := by
  rw [route_eq, hs]
  simp only
  rw [nextServer_err hn]
  generalize (next b.ws b.it).1 = r at hn ⊢
  rcases Res.not_sel hn with rfl | rfl | rfl <;> rfl

/-- **routing**: either a forward on a fresh object holding one of the stored URLs, or — only when no
    server is pinned and the selection fails — the error, with nothing but the iterator moved -/
theorem route_cases {b : Bal} (h : b.WF) (sticky : Bool) (cookie : Option Key) :
    (∃ x ∈ b.urls, ∃ it st, (∃ j, it = after b.ws j It.reset) ∧
        b.route sticky cookie = (.fwd b.heap.length st, b.alloc x it)) ∨
    (b.stuckRef sticky cookie = none ∧ (∀ i, (next b.ws b.it).1 ≠ .sel i) ∧
        b.route sticky cookie = (.err (next b.ws b.it).1, { b with it := (next b.ws b.it).2 })) := by
  cases hs : b.stuckRef sticky cookie with
  | some src => exact Or.inl ⟨_, deref_mem (stuckRef_mem hs), _, _, h.orbit, route_stuck hs⟩
  | none =>
    by_cases hn : ∃ i, (next b.ws b.it).1 = .sel i
    · obtain ⟨i, hn⟩ := hn
      exact Or.inl ⟨_, (deref_sel h hn).2, _, _, after_reset_next h.orbit, route_sel h hs hn⟩
    · exact Or.inr ⟨rfl, fun i hi => hn ⟨i, hi⟩, route_err hs fun i hi => hn ⟨i, hi⟩⟩

theorem mutate_frame {b : Bal} (h : b.WF) {r : Ref} (hr : r ∉ b.refs) (m : Option Mut) :
    b.Frame (b.mutate r m) := by
  cases m with
  | none => exact ⟨h, rfl, rfl⟩
  | some m =>
    have hu : (b.mutate r (some m)).urls = b.urls := by
      unfold Bal.mutate Bal.urls Bal.deref
      apply List.map_congr_left
      intro r' hr'
      rw [List.getD_eq_getElem?_getD, List.getD_eq_getElem?_getD,
        List.getElem?_modify_ne _ _ fun e : r = r' => hr (e ▸ hr')]
    refine ⟨⟨?_, h.len, by rw [view_keys, hu]; exact h.nodup, h.orbit⟩, hu, rfl⟩
    intro r' hr'
    simp only [Bal.mutate, List.length_modify]
    exact h.refs_lt r' hr'

end PoolM.Bal
