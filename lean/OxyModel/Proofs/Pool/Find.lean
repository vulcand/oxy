import OxyModel.Model.Pool

/-! Facts about `RR.Pool` with an arbitrary key type.  Every operation on a key `k` acts at the first
position of `k`: with `keys = done ++ k :: todo` and `ws = wd ++ w :: wt` (`k ∉ done`, `wd` as long as
`done`) `upsert` replaces `w`, `remove` drops `k` and `w`, and any other key has the weight it has in
the pool without `k` (`upsert_mid`, `remove_mid`, `weight_mid`).  The weight of every key after
`upsert` / `remove` — the refinement step of C02 — follows.
At the end, what C01 needs of the pool: consecutive `next`s, and `UpsertServer` with several options. -/
namespace RR.Pool
variable {κ : Type} [DecidableEq κ]

/-- what every reachable pool satisfies -/
structure WF (p : Pool κ) : Prop where
  len : p.ws.length = p.keys.length
  nodup : p.keys.Nodup

theorem find_none {p : Pool κ} {k : κ} : p.find k = none ↔ k ∉ p.keys := List.idxOf?_eq_none_iff

theorem find_some {p : Pool κ} {k : κ} {i : Nat} :
    p.find k = some i ↔
      ∃ h : i < p.keys.length, p.keys[i] = k ∧ ∀ j (x : j < i), ¬ p.keys[j]'(Nat.lt_trans x h) = k :=
  List.idxOf?_eq_some_iff

theorem find_some_of_nodup {p : Pool κ} (hn : p.keys.Nodup) {i : Nat} (h : i < p.keys.length) :
    p.find p.keys[i] = some i := by
  rw [find_some]
  refine ⟨h, rfl, ?_⟩
  exact fun j hj e => List.pairwise_iff_getElem.mp hn j i (Nat.lt_trans hj h) h hj e

theorem find_isSome {p : Pool κ} {k : κ} : (p.find k).isSome ↔ k ∈ p.keys := by
  cases h : p.find k with
  | none => exact ⟨fun h' => (by cases h'), fun hm => absurd hm (find_none.mp h)⟩
  | some i =>
    obtain ⟨hl, rfl, _⟩ := find_some.mp h
    exact ⟨fun _ => List.getElem_mem hl, fun _ => rfl⟩

theorem weight_isSome {p : Pool κ} {k : κ} : (p.weight k).isSome ↔ k ∈ p.keys := by
  rw [← find_isSome]; unfold weight; cases p.find k <;> simp

theorem weight_none {p : Pool κ} {k : κ} : p.weight k = none ↔ k ∉ p.keys := by
  rw [← find_none]; unfold weight; cases p.find k <;> simp

theorem weight_congr {p q : Pool κ} (hk : p.keys = q.keys) (hw : p.ws = q.ws) (k : κ) :
    p.weight k = q.weight k := by
  unfold weight find; rw [hk, hw]

/-! `weight` by position (`weight_some`: build on this one where indices matter), as membership in
`keys.zip ws`, and as `lookup` (no `Nodup` needed; it computes on appended lists, hence `weight_mid`). -/

theorem weight_some {p : Pool κ} (hp : p.WF) {k : κ} {w : Nat} :
    p.weight k = some w ↔ ∃ i, ∃ h : i < p.keys.length, p.keys[i] = k ∧ p.ws[i]'(by rw [hp.len]; exact h) = w := by
  unfold weight
  constructor
  · intro h
    split at h
    · rename_i i hi
      obtain ⟨hl, hk, _⟩ := find_some.mp hi
      refine ⟨i, hl, hk, ?_⟩
      have hl' : i < p.ws.length := by rw [hp.len]; exact hl
      simpa [List.getD_eq_getElem?_getD, hl'] using h
    · simp at h
  · rintro ⟨i, hl, hk, hw⟩
    have := find_some_of_nodup hp.nodup hl
    rw [hk] at this
    rw [this]
    have hl' : i < p.ws.length := by rw [hp.len]; exact hl
    simp [List.getD_eq_getElem?_getD, hl', hw]

theorem weight_iff_mem_zip {p : Pool κ} (hp : p.WF) {k : κ} {w : Nat} :
    p.weight k = some w ↔ (k, w) ∈ p.keys.zip p.ws := by
  rw [weight_some hp]
  constructor
  · rintro ⟨i, hi, rfl, rfl⟩
    have hz : i < (p.keys.zip p.ws).length := by rw [List.length_zip, hp.len, Nat.min_self]; exact hi
    exact List.getElem_zip (h := hz) ▸ List.getElem_mem hz
  · intro hm
    obtain ⟨i, hz, e⟩ := List.getElem_of_mem hm
    rw [List.getElem_zip] at e
    have hi : i < p.keys.length := by rw [List.length_zip, hp.len, Nat.min_self] at hz; exact hz
    exact ⟨i, hi, congrArg Prod.fst e, congrArg Prod.snd e⟩

theorem weight_eq_lookup : ∀ (ks : List κ) (ws : List Nat) (it : It), ws.length = ks.length → ∀ k,
    (⟨ks, ws, it⟩ : Pool κ).weight k = (ks.zip ws).lookup k
  | [], _, _, _, _ => rfl
  | a :: ks, [], _, h, _ => by cases h
  | a :: ks, w :: ws, it, h, k => by
    have ih := weight_eq_lookup ks ws it (Nat.succ.inj h) k
    unfold weight find at ih ⊢
    simp only [List.idxOf?_cons, List.zip_cons_cons, List.lookup_cons]
    by_cases e : a = k
    · simp [e]
    · have e' : (k == a) = false := beq_eq_false_iff_ne.mpr (Ne.symm e)
      simp only [beq_iff_eq, e, if_false, e', ← ih]
      cases ks.idxOf? k <;> rfl

section split
variable {done todo : List κ} {wd wt : List Nat} {k : κ}

theorem find_mid (hk : k ∉ done) (ws : List Nat) (it : It) :
    (⟨done ++ k :: todo, ws, it⟩ : Pool κ).find k = some done.length := by
  unfold find
  simp only [List.idxOf?, List.findIdx?_append, List.findIdx?_cons, beq_self_eq_true, if_true]
  rw [List.findIdx?_eq_none_iff.mpr fun x hx => beq_eq_false_iff_ne.mpr fun e : x = k => hk (e ▸ hx)]
  simp

omit [DecidableEq κ] in
theorem exists_split {p : Pool κ} (hp : p.WF) {k : κ} (hk : k ∈ p.keys) :
    ∃ done todo wd w wt, p.keys = done ++ k :: todo ∧ p.ws = wd ++ w :: wt ∧ wd.length = done.length ∧
      wt.length = todo.length ∧ k ∉ done ∧ k ∉ todo := by
  obtain ⟨done, todo, e⟩ := List.append_of_mem hk
  have hn := hp.nodup
  have hl := hp.len
  rw [e] at hn hl
  rw [List.length_append, List.length_cons] at hl
  have hi : done.length < p.ws.length := by rw [hl]; exact Nat.lt_add_of_pos_right (Nat.succ_pos _)
  refine ⟨done, todo, p.ws.take done.length, p.ws[done.length], p.ws.drop (done.length + 1), e, ?_, ?_, ?_, ?_, ?_⟩
  · rw [← List.drop_eq_getElem_cons hi, List.take_append_drop]
  · rw [List.length_take]; exact Nat.min_eq_left (Nat.le_of_lt hi)
  · rw [List.length_drop, hl, Nat.add_sub_add_left, Nat.add_sub_cancel]
  · exact fun h => (List.nodup_append.mp hn).2.2 k h k List.mem_cons_self rfl
  · exact (List.nodup_cons.mp (List.nodup_append.mp hn).2.1).1

theorem weight_mid (hk : k ∉ done) (hd : wd.length = done.length) (ht : wt.length = todo.length) (w : Nat)
    (it it' : It) (k' : κ) :
    (⟨done ++ k :: todo, wd ++ w :: wt, it⟩ : Pool κ).weight k' =
      if k' = k then some w else (⟨done ++ todo, wd ++ wt, it'⟩ : Pool κ).weight k' := by
  have hz : (done.zip wd).lookup k = none :=
    List.lookup_eq_none_iff.mpr fun q hq => bne_iff_ne.mpr fun e : k = q.1 => hk (e ▸ (List.of_mem_zip hq).1)
  rw [weight_eq_lookup _ _ _ (by simp [hd, ht]), weight_eq_lookup _ _ _ (by simp [hd, ht]),
    List.zip_append hd.symm, List.zip_append hd.symm, List.lookup_append, List.lookup_append,
    List.zip_cons_cons, List.lookup_cons]
  by_cases e : k' = k
  · subst e; simp [hz]
  · simp only [beq_eq_false_iff_ne.mpr e, if_neg e]

theorem upsert_mid (hk : k ∉ done) (hd : wd.length = done.length) (w : Nat) (it : It) (c : Option Nat) :
    (⟨done ++ k :: todo, wd ++ w :: wt, it⟩ : Pool κ).upsert k c =
      ⟨done ++ k :: todo, wd ++ c.getD w :: wt, It.reset⟩ := by
  unfold upsert
  rw [find_mid hk]
  cases c <;> simp [← hd]

theorem remove_mid (hk : k ∉ done) (hd : wd.length = done.length) (w : Nat) (it : It) :
    (⟨done ++ k :: todo, wd ++ w :: wt, it⟩ : Pool κ).remove k = some ⟨done ++ todo, wd ++ wt, It.reset⟩ := by
  unfold remove
  rw [find_mid hk]
  simp [← hd, List.eraseIdx_append_of_length_le]

end split

/-- the configured weight a new server gets -/
def newWeight : Option Nat → Nat
  | some w => if w = 0 then 1 else w
  | none => 1

theorem upsert_new {p : Pool κ} {k : κ} (hk : k ∉ p.keys) (w : Option Nat) :
    p.upsert k w = ⟨p.keys ++ [k], p.ws ++ [newWeight w], It.reset⟩ := by
  unfold upsert; rw [find_none.mpr hk]; cases w <;> rfl

theorem upsert_it (p : Pool κ) (k : κ) (w : Option Nat) : (p.upsert k w).it = It.reset := by
  unfold upsert; cases p.find k <;> cases w <;> rfl

theorem upsert_keys (p : Pool κ) (k : κ) (w : Option Nat) :
    (p.upsert k w).keys = if k ∈ p.keys then p.keys else p.keys ++ [k] := by
  unfold upsert
  split
  · rename_i i hi
    have : k ∈ p.keys := find_isSome.mp (by rw [hi]; rfl)
    rw [if_pos this]; split <;> rfl
  · rename_i hi
    rw [if_neg (find_none.mp hi)]

theorem mem_upsert_keys (p : Pool κ) (k k' : κ) (w : Option Nat) :
    k' ∈ (p.upsert k w).keys ↔ k' = k ∨ k' ∈ p.keys := by
  rw [upsert_keys]
  split
  · constructor
    · exact Or.inr
    · rintro (rfl | h) <;> assumption
  · simp [or_comm]

theorem upsert_wf {p : Pool κ} (hp : p.WF) (k : κ) (w : Option Nat) : (p.upsert k w).WF := by
  unfold upsert
  split
  · split
    · exact ⟨by simp [hp.len], hp.nodup⟩
    · exact ⟨hp.len, hp.nodup⟩
  · rename_i hi
    refine ⟨by simp [hp.len], ?_⟩
    exact List.nodup_append.mpr ⟨hp.nodup, List.pairwise_singleton _ _,
      fun a ha b hb e => find_none.mp hi (by rw [← List.mem_singleton.mp hb, ← e]; exact ha)⟩

theorem weight_upsert {p : Pool κ} (hp : p.WF) (k k' : κ) (w : Option Nat) :
    (p.upsert k w).weight k' =
      if k' = k then
        (match p.weight k, w with
          | some old, none => some old
          | some _, some w => some w
          | none, w => some (newWeight w))
      else p.weight k' := by
  by_cases hk : k ∈ p.keys
  · obtain ⟨ks, ws, it⟩ := p
    obtain ⟨done, todo, wd, w0, wt, rfl, rfl, hd, ht, hkd, _⟩ := exists_split hp hk
    -- old and new pool differ in the weight at `k`; both are compared with the pool without `k`
    rw [upsert_mid hkd hd, weight_mid hkd hd ht _ It.reset it, weight_mid hkd hd ht w0 it it k',
      weight_mid hkd hd ht w0 it it k]
    by_cases e' : k' = k
    · simp only [e', if_true]; cases w <;> rfl
    · simp only [e', if_false]
  · rw [upsert_new hk, weight_none.mpr hk]
    have := weight_mid (todo := []) (wt := []) hk hp.len rfl (newWeight w) It.reset p.it k'
    simpa using this

theorem remove_none {p : Pool κ} {k : κ} : p.remove k = none ↔ k ∉ p.keys := by
  rw [← find_none]; unfold remove; cases p.find k <;> simp

theorem remove_split {p p' : Pool κ} (hp : p.WF) {k : κ} (h : p.remove k = some p') :
    ∃ done todo wd w wt, p.keys = done ++ k :: todo ∧ p.ws = wd ++ w :: wt ∧ wd.length = done.length ∧
      wt.length = todo.length ∧ k ∉ done ∧ k ∉ todo ∧ p' = ⟨done ++ todo, wd ++ wt, It.reset⟩ := by
  have hk : k ∈ p.keys := Decidable.byContradiction fun hk => by rw [remove_none.mpr hk] at h; cases h
  obtain ⟨ks, ws, it⟩ := p
  obtain ⟨done, todo, wd, w, wt, rfl, rfl, hd, ht, hkd, hkt⟩ := exists_split hp hk
  rw [remove_mid hkd hd] at h
  exact ⟨done, todo, wd, w, wt, rfl, rfl, hd, ht, hkd, hkt, (Option.some.inj h).symm⟩

theorem remove_wf {p p' : Pool κ} (hp : p.WF) {k : κ} (h : p.remove k = some p') : p'.WF := by
  obtain ⟨done, todo, wd, w, wt, hks, _, hd, ht, _, _, rfl⟩ := remove_split hp h
  refine ⟨by simp [hd, ht], ?_⟩
  have hn := hp.nodup
  rw [hks] at hn
  exact hn.sublist ((List.sublist_cons_self k todo).append_left done)

theorem mem_remove_keys {p p' : Pool κ} (hp : p.WF) {k : κ} (h : p.remove k = some p') (k' : κ) :
    k' ∈ p'.keys ↔ k' ≠ k ∧ k' ∈ p.keys := by
  obtain ⟨done, todo, wd, w, wt, hks, _, _, _, hkd, hkt, rfl⟩ := remove_split hp h
  rw [hks]
  simp only [List.mem_append, List.mem_cons]
  constructor
  · rintro (h | h)
    · exact ⟨fun e => hkd (e ▸ h), Or.inl h⟩
    · exact ⟨fun e => hkt (e ▸ h), Or.inr (Or.inr h)⟩
  · rintro ⟨hne, h | h | h⟩
    · exact Or.inl h
    · exact absurd h hne
    · exact Or.inr h

theorem weight_remove {p p' : Pool κ} (hp : p.WF) {k : κ} (h : p.remove k = some p') (k' : κ) :
    p'.weight k' = if k' = k then none else p.weight k' := by
  obtain ⟨ks, ws, it⟩ := p
  obtain ⟨done, todo, wd, w, wt, rfl, rfl, hd, ht, hkd, hkt, rfl⟩ := remove_split hp h
  rw [weight_mid hkd hd ht w it It.reset]
  by_cases e' : k' = k
  · rw [if_pos e', e', weight_none]
    exact fun hm => (List.mem_append.mp hm).elim hkd hkt
  · rw [if_neg e', if_neg e']

end RR.Pool

namespace RR

theorem set_getD_self {α : Type} (l : List α) (i : Nat) (d : α) : l.set i (l.getD i d) = l := by
  by_cases h : i < l.length
  · rw [← List.getElem_eq_getD (h := h) d, List.set_getElem_self]
  · exact List.set_eq_of_length_le (Nat.le_of_not_lt h)

namespace Pool
variable {κ : Type} [DecidableEq κ]

theorem applyOps_replicate_next (p : Pool κ) (j : Nat) :
    p.applyOps (List.replicate j .next) = { p with it := after p.ws j p.it } := by
  induction j generalizing p with
  | zero => rfl
  | succ j ih => rw [List.replicate_succ, applyOps, List.foldl_cons]; exact ih _

theorem applyWeights_natCast (w y : Nat) (xs : List Int) : applyWeights w ((y : Int) :: xs) = applyWeights y xs := by
  rw [applyWeights, if_neg (Int.not_lt.mpr (Int.natCast_nonneg y)), Int.toNat_natCast]

/-- The options of one `UpsertServer` call start from the server's present weight (0 for a new server); an invalid one leaves the
last weight written, adds no server and does not reset. -/
theorem upsertOpts_eq (p : Pool κ) (k : κ) (xs : List Int) :
    p.upsertOpts k xs =
      let r := applyWeights ((p.weight k).getD 0) xs
      if r.2 then (p.upsert k (some r.1), true)
      else (match p.find k with | some i => { p with ws := p.ws.set i r.1 } | none => p, false) := by
  unfold upsertOpts upsert weight
  cases p.find k with
  | none => rfl
  | some i => rfl

theorem upsertOpts_ok {p : Pool κ} {k : κ} {xs : List Int} {v : Nat}
    (h : applyWeights ((p.weight k).getD 0) xs = (v, true)) : p.upsertOpts k xs = (p.upsert k (some v), true) := by
  rw [upsertOpts_eq, h]; rfl

theorem upsertOpts_fail {p : Pool κ} {k : κ} {xs : List Int} {v : Nat}
    (h : applyWeights ((p.weight k).getD 0) xs = (v, false)) :
    p.upsertOpts k xs = (match p.find k with | some i => { p with ws := p.ws.set i v } | none => p, false) := by
  rw [upsertOpts_eq, h]; rfl

end Pool

end RR
