import OxyModel.Proofs.Pool.Find
import OxyModel.Proofs.RR.Window

/-! The balancer with an object heap (`PoolM.Bal`): well-formedness, the allocation of a fresh object
(which no stored reference sees: `Frame`), and how every operation acts on the `RR.Pool` view, on the stored URLs
and on the references. -/
theorem List.getD_append_singleton_lt {α : Type} (l : List α) (x d : α) {r : Nat} (h : r < l.length) :
    (l ++ [x]).getD r d = l.getD r d := by
  rw [List.getD_eq_getElem?_getD, List.getD_eq_getElem?_getD, List.getElem?_append_left h]

theorem List.getD_append_singleton_length {α : Type} (l : List α) (x d : α) : (l ++ [x]).getD l.length d = x := by
  rw [List.getD_eq_getElem?_getD, List.getElem?_append_right (Nat.le_refl _), Nat.sub_self]; rfl

namespace PoolM.Bal
open RR PoolM

/-- reachable balancers: references point into the heap, one weight per record, keys distinct,
    and the iterator is where some number `j` of calls from a reset leave it, for the current weights
    (every change resets it; `RR.Ctx.after_reset` places such a position on the per-iteration orbit `Ctx.o`) -/
structure WF (b : Bal) : Prop where
  refs_lt : ∀ r ∈ b.refs, r < b.heap.length
  len : b.ws.length = b.refs.length
  nodup : b.view.keys.Nodup
  orbit : ∃ j, b.it = after b.ws j It.reset

@[simp] theorem view_ws (b : Bal) : b.view.ws = b.ws := rfl
@[simp] theorem view_it (b : Bal) : b.view.it = b.it := rfl
theorem view_keys (b : Bal) : b.view.keys = b.urls.map URL.key := rfl

theorem urls_length (b : Bal) : b.urls.length = b.refs.length := List.length_map _

theorem view_keys_length (b : Bal) : b.view.keys.length = b.refs.length := by
  rw [view_keys, List.length_map, urls_length]

theorem view_keys_eq_nil {b : Bal} : b.view.keys = [] ↔ b.refs = [] := by
  rw [view_keys, Bal.urls, List.map_eq_nil_iff, List.map_eq_nil_iff]

theorem view_keys_getElem (b : Bal) {i : Nat} (h : i < b.view.keys.length) :
    b.view.keys[i] = (b.deref (b.refs[i]'(by rw [← view_keys_length]; exact h))).key := by
  simp [view_keys, Bal.urls]

theorem WF.view {b : Bal} (h : b.WF) : b.view.WF :=
  ⟨h.len.trans (view_keys_length b).symm, h.nodup⟩

theorem WF.of_view {b : Bal} (hv : b.view.WF) (hr : ∀ r ∈ b.refs, r < b.heap.length)
    (ho : ∃ j, b.it = after b.ws j It.reset) : b.WF :=
  ⟨hr, hv.len.trans (view_keys_length b), hv.nodup, ho⟩

theorem empty_wf : Bal.empty.WF :=
  ⟨by simp [Bal.empty], rfl, by simp [Bal.view, Bal.urls, Bal.empty], ⟨0, rfl⟩⟩

/-- a fresh object holding `x` is allocated (`utils.CopyURL`) and the iterator is left at `it` -/
def alloc (b : Bal) (x : URL) (it : It) : Bal := { b with it := it, heap := b.heap ++ [x] }

/-- `b'` differs from `b` at most in the iterator and in objects no stored reference points to: what
    selection, routing and a downstream handler leave of the pool -/
structure Frame (b b' : Bal) : Prop where
  wf : b'.WF
  urls : b'.urls = b.urls
  ws : b'.ws = b.ws

theorem Frame.trans {b b' b'' : Bal} (h : b.Frame b') (h' : b'.Frame b'') : b.Frame b'' :=
  ⟨h'.wf, h'.urls.trans h.urls, h'.ws.trans h.ws⟩

theorem alloc_spec {b : Bal} (h : b.WF) (x : URL) {it : It} (ho : ∃ j, it = after b.ws j It.reset) :
    b.Frame (b.alloc x it) ∧ (b.alloc x it).deref b.heap.length = x := by
  have hu : (b.alloc x it).urls = b.urls :=
    List.map_congr_left fun r hr => List.getD_append_singleton_lt _ _ _ (h.refs_lt r hr)
  have hrefs : ∀ r ∈ (b.alloc x it).refs, r < (b.alloc x it).heap.length := fun r hr => by
    show r < (b.heap ++ [x]).length
    rw [List.length_append]
    exact Nat.lt_add_right _ (h.refs_lt r hr)
  have hnodup : (b.alloc x it).view.keys.Nodup := by rw [view_keys, hu]; exact h.nodup
  exact ⟨⟨⟨hrefs, h.len, hnodup, ho⟩, hu, rfl⟩, List.getD_append_singleton_length _ _ _⟩

theorem fresh_not_ref {b : Bal} (h : b.WF) : b.heap.length ∉ b.refs :=
  fun hm => Nat.lt_irrefl _ (h.refs_lt _ hm)

theorem setIt_frame {b : Bal} (h : b.WF) {it : It} (ho : ∃ j, it = after b.ws j It.reset) :
    b.Frame { b with it := it } :=
  ⟨⟨h.refs_lt, h.len, h.nodup, ho⟩, rfl, rfl⟩

theorem upsert_urls_of_not_mem {b : Bal} (h : b.WF) (u : URL) (w : Option Nat) (hm : u.key ∉ b.view.keys) :
    (b.upsert u w).urls = b.urls ++ [u] := by
  unfold Bal.upsert
  rw [Pool.find_none.mpr hm]
  -- the old references read the old objects, the new one reads the object just allocated
  show (b.refs ++ [b.heap.length]).map (fun r => (b.heap ++ [u]).getD r default) = b.refs.map b.deref ++ [u]
  rw [List.map_append]
  congr 1
  · exact List.map_congr_left fun r hr => List.getD_append_singleton_lt _ _ _ (h.refs_lt r hr)
  · exact congrArg (· :: []) (List.getD_append_singleton_length _ _ _)

theorem upsert_view {b : Bal} (h : b.WF) (u : URL) (w : Option Nat) :
    (b.upsert u w).view = b.view.upsert u.key w := by
  cases hf : b.view.find u.key with
  | some i =>
    unfold Bal.upsert Pool.upsert
    rw [hf]
    cases w <;> rfl
  | none =>
    have hm := Pool.find_none.mp hf
    show Pool.mk ((b.upsert u w).urls.map URL.key) (b.upsert u w).ws (b.upsert u w).it = _
    rw [upsert_urls_of_not_mem h u w hm, List.map_append]
    unfold Bal.upsert
    rw [hf, Pool.upsert_new hm]
    rfl

theorem upsert_it (b : Bal) (u : URL) (w : Option Nat) : (b.upsert u w).it = It.reset := by
  unfold Bal.upsert
  cases b.view.find u.key <;> exact Pool.upsert_it ..

/-- an update of a known server writes the weight list and resets the iterator: nothing is allocated,
    no reference changes -/
theorem upsert_of_mem {b : Bal} {u : URL} (hm : u.key ∈ b.view.keys) (w : Option Nat) :
    b.upsert u w = { b with ws := (b.view.upsert u.key w).ws, it := It.reset } := by
  rw [← upsert_it b u w]
  unfold Bal.upsert
  cases hf : b.view.find u.key with
  | some i => rfl
  | none => exact absurd hm (Pool.find_none.mp hf)

theorem upsert_heap_le (b : Bal) (u : URL) (w : Option Nat) : b.heap.length ≤ (b.upsert u w).heap.length := by
  unfold Bal.upsert
  split
  · exact Nat.le_refl _
  · exact List.length_append ▸ Nat.le_add_right _ _

theorem upsert_wf {b : Bal} (h : b.WF) (u : URL) (w : Option Nat) : (b.upsert u w).WF := by
  refine WF.of_view (upsert_view h u w ▸ Pool.upsert_wf h.view u.key w) ?_ ⟨0, upsert_it b u w⟩
  unfold Bal.upsert
  cases hf : b.view.find u.key with
  | some i => exact h.refs_lt
  | none =>
    intro r hr
    show r < (b.heap ++ [u]).length
    rw [List.length_append]
    rcases List.mem_append.mp hr with hr | hr
    · exact Nat.lt_succ_of_lt (h.refs_lt r hr)
    · exact List.mem_singleton.mp hr ▸ Nat.lt_succ_self _

theorem remove_some {b b' : Bal} {u : URL} (h : b.remove u = some b') :
    ∃ i, b.view.find u.key = some i ∧
      b' = { b with refs := b.refs.eraseIdx i, ws := b.ws.eraseIdx i, it := It.reset } := by
  unfold Bal.remove at h
  cases hf : b.view.find u.key with
  | none => rw [hf] at h; cases h
  | some i => rw [hf] at h; exact ⟨i, rfl, (Option.some.inj h).symm⟩

theorem remove_none {b : Bal} {u : URL} : b.remove u = none ↔ u.key ∉ b.view.keys := by
  rw [← Pool.find_none]; unfold Bal.remove; cases b.view.find u.key <;> simp

theorem remove_view {b b' : Bal} {u : URL} (h : b.remove u = some b') : b.view.remove u.key = some b'.view := by
  obtain ⟨i, hi, rfl⟩ := remove_some h
  unfold Pool.remove
  rw [hi]
  simp [Bal.view, Bal.urls, Bal.deref, List.eraseIdx_map]

theorem remove_heap {b b' : Bal} {u : URL} (h : b.remove u = some b') : b'.heap = b.heap := by
  obtain ⟨i, _, rfl⟩ := remove_some h
  rfl

theorem remove_wf {b b' : Bal} {u : URL} (hb : b.WF) (h : b.remove u = some b') : b'.WF := by
  have hwf := Pool.remove_wf hb.view (remove_view h)
  obtain ⟨i, _, rfl⟩ := remove_some h
  exact WF.of_view hwf (fun r hr => hb.refs_lt r (List.mem_of_mem_eraseIdx hr)) ⟨0, rfl⟩

/-- the rollback of a failed add (`_ = rb.next.RemoveServer(u)`) -/
theorem upsert_remove_new {b : Bal} (h : b.WF) (u : URL) (w : Option Nat) (hk : u.key ∉ b.view.keys) :
    (b.upsert u w).remove u = some (b.alloc u It.reset) := by
  have hf : b.view.find u.key = none := Pool.find_none.mpr hk
  -- the new key sits behind all others: the appended reference and weight are erased again
  have hfind : (b.upsert u w).view.find u.key = some b.refs.length := by
    rw [upsert_view h u w, Pool.upsert_new hk, Pool.find_mid (todo := []) hk, view_keys_length]
  unfold Bal.remove
  rw [hfind]
  unfold Bal.upsert
  rw [hf]
  simp [Bal.alloc, Pool.upsert_new hk, List.eraseIdx_append_of_length_le, ← h.len]

end PoolM.Bal
