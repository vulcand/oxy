import OxyModel.Proofs.Hist.Counts

/-!
# `ValueAtPercentile` picks the class of the k-th smallest recorded value

The loop stops at the first position whose prefix sum reaches `k`, and prefix sums count the held values below a boundary:
the two sums around `k` are the two counts of `valueAtCount_rank`.
-/
namespace Hist

theorem valueAtCount_zero (h : H) (z : Bool) : h.valueAtCount 0 z = 0 := by
  unfold H.valueAtCount
  rw [valueUpToCount_zero]
  cases z
  · exact (by decide : highestEq 0 = 0)
  · exact Nat.le_zero.1 (lowestEq_le 0)

/-- **rank**: for `1 ≤ k ≤ totalCount`, `r = highestEquivalentValue(getValueFromIdxUpToCount(k))` is the highest value
    equivalent to some held value; at least `k` held values are `≤ r`, fewer than `k` lie below `lowestEquivalentValue(r)` -/
theorem valueAtCount_rank {h : H} {vs : List Nat} (hr : Rep h vs) {k : Nat} (h1 : 1 ≤ k) (h2 : k ≤ h.total) :
    (∃ v ∈ vs, h.valueAtCount k false = highestEq v) ∧
    k ≤ vs.countP (fun v => decide (v ≤ h.valueAtCount k false)) ∧
    vs.countP (fun v => decide (v < lowestEq (h.valueAtCount k false))) < k := by
  obtain ⟨m, _, hlo, hhi, hval⟩ := valueUpToCount_spec hr h1 h2
  -- the result `r` is the last value before the boundary `valueAt (m + 1)`, and its class starts at `valueAt m`
  have hr1 : h.valueAtCount k false + 1 = valueAt (m + 1) := by
    show highestEq (h.valueUpToCount k) + 1 = _
    rw [hval, highestEq_succ, countsIndexFor_valueAt]
  have hr0 : lowestEq (h.valueAtCount k false) = valueAt m := by
    show lowestEq (highestEq (h.valueUpToCount k)) = _
    rw [hval, lowestEq_eq_valueAt, countsIndexFor_highestEq, countsIndexFor_valueAt]
  -- `counts[m]` is not zero: some held value is counted at position `m`
  have hpos : 0 < h.counts.getD m 0 := Nat.lt_of_add_lt_add_left (Nat.lt_of_lt_of_le hlo hhi)
  rw [hr.count, List.countP_pos_iff] at hpos
  obtain ⟨v, hv, hvm⟩ := hpos
  -- so that the two prefix sums around `k` are the two counts claimed
  rw [psum_rep hr] at hlo hhi
  refine ⟨⟨v, hv, Nat.add_right_cancel (by rw [hr1, highestEq_succ, of_decide_eq_true hvm])⟩, ?_, by rwa [hr0]⟩
  rw [← hr1] at hhi
  simpa only [Nat.lt_succ_iff] using hhi

/-! ### the exact-rational count: `⌊(a/b)·t + 1/2⌋ = (2at + b) / 2b` -/

theorem round_le {a b : Nat} (t : Nat) (hb : 0 < b) (h : a ≤ b) : (2 * a * t + b) / (2 * b) ≤ t := by
  apply Nat.le_of_lt_succ
  apply Nat.div_lt_of_lt_mul
  calc 2 * a * t + b ≤ 2 * b * t + b := Nat.add_le_add_right (Nat.mul_le_mul_right t (Nat.mul_le_mul_left 2 h)) b
    _ < 2 * b * t + 2 * b := Nat.add_lt_add_left ((Nat.lt_mul_iff_one_lt_left hb).2 (by decide)) _
    _ = 2 * b * (t + 1) := (Nat.mul_succ _ _).symm

theorem round_self {b : Nat} (t : Nat) (hb : 0 < b) : (2 * b * t + b) / (2 * b) = t := by
  rw [Nat.mul_add_div (Nat.mul_pos (by decide) hb), Nat.div_eq_of_lt ((Nat.lt_mul_iff_one_lt_left hb).2 (by decide)), Nat.add_zero]

/-- for a percentile `≤ 100` (after the clamp) the count never exceeds `totalCount`: the loop of
    `getValueFromIdxUpToCount` stays inside `counts` (`valueUpToCount_spec`) -/
theorem countAtQ_le (num den total : Nat) (hd : 0 < den) : countAtQ num den total ≤ total := by
  unfold countAtQ
  split
  · exact Nat.le_of_eq (round_self (b := 100) total (by decide))
  · rename_i h
    rw [show 200 * den = 2 * (100 * den) from Nat.mul_assoc 2 100 den]
    exact round_le total (Nat.mul_pos (by decide) hd) (Nat.le_of_not_lt h)

theorem countAtQ_zero (den total : Nat) (hd : 0 < den) : countAtQ 0 den total = 0 := by
  unfold countAtQ
  rw [if_neg (Nat.not_lt_zero _), Nat.mul_zero, Nat.zero_mul, Nat.zero_add]
  exact Nat.div_eq_of_lt (Nat.mul_lt_mul_of_pos_right (by decide) hd)

theorem countAtQ_full (num den total : Nat) (hd : 0 < den) (h : 100 * den ≤ num) : countAtQ num den total = total := by
  unfold countAtQ
  split
  · exact round_self (b := 100) total (by decide)
  · rename_i h1
    rw [← Nat.le_antisymm h (Nat.le_of_not_lt h1), show 200 * den = 2 * (100 * den) from Nat.mul_assoc 2 100 den]
    exact round_self total (Nat.mul_pos (by decide) hd)

end Hist
