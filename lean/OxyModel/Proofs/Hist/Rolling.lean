import OxyModel.Proofs.Hist.Counts

/-!
# Which latencies the rolling histogram holds

A *ghost* `Ghost` keeps, for each of the six sub-histograms, the list of the `(time, latency ns)` pairs it
holds — written from the text of `getHist` / `rotate` / `Reset` on plain lists, with no histogram in it —
plus the list of the pairs a rotation has evicted since the last reset.  `Sim r g`: every sub-histogram of the
model `r` holds exactly the microsecond values of its ghost list.  The invariant is proved over every
history of `recordLatency` / `reset`; the timing facts (`GInv`) bound how old an evicted pair must be.
-/
namespace Hist

/-- a history of the rolling histogram: `RecordLatencies(d, 1)` at clock reading `now`, `Reset()` at `now` -/
inductive REv where
  | record (now dNs : Nat)
  | reset (now : Nat)
deriving Repr, DecidableEq

def REv.time : REv → Nat
  | .record t _ => t
  | .reset t => t

def stepR (r : Rolling) : REv → Rolling
  | .record now d => r.recordLatency now d
  | .reset now => r.reset now

def runR (es : List REv) : Rolling := es.foldl stepR Rolling.new

/-- one event on the log of pairs `(time, latency ns)` recorded since the last reset -/
def sinceStep (acc : List (Nat × Nat)) : REv → List (Nat × Nat)
  | .record t d => (t, d) :: acc
  | .reset _ => []

/-- the pairs `(time, latency ns)` recorded since the last reset, newest first -/
def sinceReset (es : List REv) : List (Nat × Nat) := es.foldl sinceStep []

/-- explicit per-bucket lists -/
structure Ghost where
  idx      : Nat
  lastRoll : Nat
  slots    : List (List (Nat × Nat))    -- per sub-histogram: the pairs it holds, newest first
  dropped  : List (Nat × Nat)           -- pairs evicted by a rotation since the last reset
deriving Repr, DecidableEq

def Ghost.new : Ghost := ⟨0, 0, List.replicate histBuckets [], []⟩

/-- one event on the ghost: a record at `now` first rotates iff `now - lastRoll ≥ histPeriod` (once, however
    long the gap): the next slot `(idx + 1) % 6` is emptied — its pairs are evicted — and becomes current; then the
    pair is put into the current slot.  A reset empties everything and makes slot 0 current. -/
def stepG (g : Ghost) : REv → Ghost
  | .record now d =>
    let g1 : Ghost :=
      if now - g.lastRoll ≥ histPeriod then
        let i := (g.idx + 1) % histBuckets
        { idx := i, lastRoll := now, slots := g.slots.modify i (fun _ => []), dropped := g.dropped ++ g.slots.getD i [] }
      else g
    { g1 with slots := g1.slots.modify g1.idx (fun s => (now, d) :: s) }
  | .reset now => { idx := 0, lastRoll := now, slots := g.slots.map (fun _ => []), dropped := [] }

def runG (es : List REv) : Ghost := es.foldl stepG Ghost.new

/-- the microsecond values a list of pairs puts into a histogram: `d / 1µs`, those of 2^32 µs or more are dropped -/
def vals (l : List (Nat × Nat)) : List Nat := (l.map (fun p => p.2 / 1000)).filter (fun v => decide (v < 2 ^ 32))

theorem vals_cons (p : Nat × Nat) (l : List (Nat × Nat)) :
    vals (p :: l) = if p.2 / 1000 < 2 ^ 32 then p.2 / 1000 :: vals l else vals l := by
  unfold vals
  rw [List.map_cons, filter_inRange_cons]

theorem vals_append (l m : List (Nat × Nat)) : vals (l ++ m) = vals l ++ vals m := by simp [vals]

theorem getD_replicate_self {α : Type} (n j : Nat) (a : α) : (List.replicate n a).getD j a = a := by
  rw [List.getD_eq_getElem?_getD, List.getElem?_replicate]
  split
  · rfl
  · rfl

theorem getD_modify_list {α : Type} (l : List α) (i j : Nat) (f : α → α) (d : α) (hi : i < l.length) :
    (l.modify i f).getD j d = if i = j then f (l.getD j d) else l.getD j d := by
  simp only [List.getD_eq_getElem?_getD, List.getElem?_modify]
  by_cases h : i = j
  · subst h
    rw [if_pos rfl, List.getElem?_eq_getElem hi]
    simp
  · rw [if_neg h]
    cases l[j]? <;> simp [h]

/-! ### the steps of the ghost

`stepG` spells a record step out in one piece, for the reader of `C18_rolling_window`.  Its parts are named here as the model
names them (`rotate`, `getHist`, then the `put` of `recordLatency`); `stepG_record` is the bridge every proof below goes through. -/

/-- the rotation: the next slot is emptied — its pairs are evicted — and becomes current -/
def Ghost.rotate (g : Ghost) (now : Nat) : Ghost :=
  { idx := (g.idx + 1) % histBuckets, lastRoll := now,
    slots := g.slots.modify ((g.idx + 1) % histBuckets) (fun _ => []),
    dropped := g.dropped ++ g.slots.getD ((g.idx + 1) % histBuckets) [] }

def Ghost.getHist (g : Ghost) (now : Nat) : Ghost :=
  if now - g.lastRoll ≥ histPeriod then g.rotate now else g

def Ghost.put (g : Ghost) (p : Nat × Nat) : Ghost :=
  { g with slots := g.slots.modify g.idx (fun s => p :: s) }

theorem stepG_record (g : Ghost) (now d : Nat) : stepG g (.record now d) = (g.getHist now).put (now, d) := rfl

theorem next_lt (i : Nat) : (i + 1) % histBuckets < histBuckets := Nat.mod_lt _ (by decide)

/-- `Sim r g`: same position and roll time, six sub-histograms, the `j`-th holding the values of the `j`-th ghost list
    (beyond the sixth both defaults are empty) -/
structure Sim (r : Rolling) (g : Ghost) : Prop where
  idx : r.idx = g.idx
  lastRoll : r.lastRoll = g.lastRoll
  period : r.period = histPeriod
  buckets : r.buckets.length = histBuckets
  slots : g.slots.length = histBuckets
  idx_lt : g.idx < histBuckets
  rep : ∀ j, Rep (r.buckets.getD j H.new) (vals (g.slots.getD j []))

theorem sim_new : Sim Rolling.new Ghost.new := by
  refine ⟨rfl, rfl, rfl, List.length_replicate, List.length_replicate, by decide, fun j => ?_⟩
  show Rep ((List.replicate histBuckets H.new).getD j H.new) (vals ((List.replicate histBuckets []).getD j []))
  rw [getD_replicate_self, getD_replicate_self]
  exact rep_new

/-- both sides modify the same slot -/
theorem rep_modify {bs : List H} {ss : List (List (Nat × Nat))} (hb : bs.length = histBuckets) (hs : ss.length = histBuckets)
    (h : ∀ j, Rep (bs.getD j H.new) (vals (ss.getD j []))) {i : Nat} (hi : i < histBuckets)
    (f : H → H) (g : List (Nat × Nat) → List (Nat × Nat)) (hfg : ∀ a b, Rep a (vals b) → Rep (f a) (vals (g b))) (j : Nat) :
    Rep ((bs.modify i f).getD j H.new) (vals ((ss.modify i g).getD j [])) := by
  rw [getD_modify_list _ _ _ _ _ (hb ▸ hi), getD_modify_list _ _ _ _ _ (hs ▸ hi)]
  split
  · exact hfg _ _ (h j)
  · exact h j

theorem Sim.rotate {r : Rolling} {g : Ghost} (h : Sim r g) (now : Nat) :
    Sim { r.rotate with lastRoll := now } (g.rotate now) := by
  unfold Rolling.rotate
  simp only
  rw [h.idx, h.buckets]
  exact {
    idx := rfl, lastRoll := rfl, period := h.period
    buckets := (List.length_modify ..).trans h.buckets
    slots := (List.length_modify ..).trans h.slots
    idx_lt := next_lt _
    rep := rep_modify h.buckets h.slots h.rep (next_lt _) _ _ fun _ _ hab => rep_reset hab }

theorem Sim.getHist {r : Rolling} {g : Ghost} (h : Sim r g) (now : Nat) : Sim (r.getHist now) (g.getHist now) := by
  unfold Rolling.getHist Ghost.getHist
  rw [h.lastRoll, h.period]
  split
  · exact h.rotate now
  · exact h

theorem Sim.put {r : Rolling} {g : Ghost} (h : Sim r g) (now d : Nat) :
    Sim { r with buckets := r.buckets.modify r.idx fun a => a.recordValues (d / 1000) 1 } (g.put (now, d)) := by
  rw [h.idx]
  have record : ∀ (a : H) (s : List (Nat × Nat)), Rep a (vals s) → Rep (a.recordValues (d / 1000) 1) (vals ((now, d) :: s)) :=
    fun _ _ hab => by rw [vals_cons]; exact rep_record hab (d / 1000)
  exact {
    idx := rfl, lastRoll := h.lastRoll, period := h.period
    buckets := (List.length_modify ..).trans h.buckets
    slots := (List.length_modify ..).trans h.slots
    idx_lt := h.idx_lt
    rep := rep_modify h.buckets h.slots h.rep h.idx_lt _ _ record }

theorem sim_step {r : Rolling} {g : Ghost} (h : Sim r g) (e : REv) : Sim (stepR r e) (stepG g e) := by
  cases e with
  | record now d =>
    rw [stepG_record]
    exact (h.getHist now).put now d
  | reset now =>
    refine ⟨rfl, rfl, h.period, (List.length_map ..).trans h.buckets, (List.length_map ..).trans h.slots,
      (by decide : 0 < histBuckets), fun j => ?_⟩
    -- the `j`-th sub-histogram, if there is one, is reset; its ghost list is empty
    show Rep ((r.buckets.map H.reset).getD j H.new) (vals ((g.slots.map fun _ => []).getD j []))
    have hj := h.rep j
    rw [List.getD_eq_getElem?_getD] at hj
    rw [List.map_const', getD_replicate_self, List.getD_eq_getElem?_getD, List.getElem?_map]
    cases hb : r.buckets[j]? with
    | none => exact rep_new
    | some b => exact rep_reset (hb ▸ hj)

theorem sim_run (es : List REv) : Sim (runR es) (runG es) :=
  foldl_rel Sim stepR stepG (fun _ _ e h => sim_step h e) es _ _ sim_new

theorem rep_foldl_merge {ss : List (List (Nat × Nat))} {bs : List H} (hl : bs.length = ss.length)
    (h : ∀ j, Rep (bs.getD j H.new) (vals (ss.getD j []))) {acc : H} {vs : List Nat} (ha : Rep acc vs) :
    Rep (bs.foldl H.merge acc) (vs ++ vals ss.flatten) := by
  induction ss generalizing bs acc vs with
  | nil =>
    rw [List.length_eq_zero_iff.1 hl]
    simpa [vals] using ha
  | cons s ss ih =>
    obtain ⟨b, bs, rfl⟩ := List.exists_cons_of_length_eq_add_one hl
    rw [List.foldl_cons, List.flatten_cons, vals_append, ← List.append_assoc]
    exact ih (by simpa using hl) (fun j => h (j + 1)) (rep_merge ha (h 0))

theorem rep_merged {r : Rolling} {g : Ghost} (h : Sim r g) : Rep r.merged (vals g.slots.flatten) :=
  rep_foldl_merge (h.buckets.trans h.slots.symm) h.rep rep_new

theorem perm_flatten_modify_cons {α : Type} (x : α) (l : List (List α)) (i : Nat) (hi : i < l.length) :
    ((l.modify i (fun s => x :: s)).flatten).Perm (x :: l.flatten) := by
  induction l generalizing i with
  | nil => simp at hi
  | cons s l ih =>
    cases i with
    | zero => simp
    | succ i =>
      simp only [List.modify_succ_cons, List.flatten_cons]
      have := ih i (by simpa using hi)
      exact (List.Perm.append_left s this).trans List.perm_middle

theorem perm_flatten_modify_nil {α : Type} (l : List (List α)) (i : Nat) :
    ((l.modify i (fun _ => [])).flatten ++ l.getD i []).Perm l.flatten := by
  induction l generalizing i with
  | nil => simp
  | cons s l ih =>
    cases i with
    | zero =>
      simp only [List.modify_zero_cons, List.flatten_cons, List.nil_append, List.getD_cons_zero]
      exact List.perm_append_comm
    | succ i =>
      simp only [List.modify_succ_cons, List.flatten_cons, List.getD_cons_succ, List.append_assoc]
      exact List.Perm.append_left s (ih i)

/-- age of slot `j`: the number of rotations since it was current -/
def age (idx j : Nat) : Nat := (idx + histBuckets - j) % histBuckets

/-- the ghost invariant: six slots; a pair in a slot of age `a` satisfies `t + a·period < lastRoll + period`;
    an evicted pair satisfies `t + 5·period < lastRoll` -/
structure GInv (g : Ghost) : Prop where
  idx_lt : g.idx < histBuckets
  slots : g.slots.length = histBuckets
  recent : ∀ j, j < histBuckets → ∀ p ∈ g.slots.getD j [], p.1 + age g.idx j * histPeriod < g.lastRoll + histPeriod
  dropped : ∀ p ∈ g.dropped, p.1 + 5 * histPeriod < g.lastRoll

theorem ginv_new : GInv Ghost.new := by
  refine ⟨by decide, List.length_replicate, fun j _ p hp => ?_, fun _ hp => absurd hp List.not_mem_nil⟩
  rw [show Ghost.new.slots.getD j [] = [] from getD_replicate_self _ _ _] at hp
  exact absurd hp List.not_mem_nil

/-- the current slot is the youngest, the next one the oldest, and a rotation into it ages every other slot by one
    (three facts of `(i + n - j) % n`, here for the six slots as a 6×6 table) -/
theorem age_rotate : ∀ i < histBuckets, ∀ j < histBuckets,
    age i i = 0 ∧ age i ((i + 1) % histBuckets) = 5 ∧
    ((i + 1) % histBuckets ≠ j → age ((i + 1) % histBuckets) j = age i j + 1) := by
  decide +kernel

/-- a rotation that is due: what it evicts is five periods old, everything else one rotation older -/
theorem ginv_rotate {g : Ghost} (h : GInv g) {now : Nat} (hrot : g.lastRoll + histPeriod ≤ now) : GInv (g.rotate now) := by
  obtain ⟨h1, h2, h3, h4⟩ := h
  refine ⟨next_lt _, (List.length_modify ..).trans h2, fun j hj p hp => ?_, fun p hp => ?_⟩
  · obtain ⟨_, _, a2⟩ := age_rotate _ h1 j hj
    have hp' : p ∈ (g.slots.modify ((g.idx + 1) % histBuckets) fun _ => []).getD j [] := hp
    rw [getD_modify_list _ _ _ _ _ (Nat.lt_of_lt_of_eq (next_lt _) h2.symm)] at hp'
    split at hp'
    · exact absurd hp' List.not_mem_nil
    · rename_i hj2
      have := h3 j hj p hp'
      show p.1 + age ((g.idx + 1) % histBuckets) j * histPeriod < now + histPeriod
      rw [a2 hj2, Nat.add_mul, Nat.one_mul, ← Nat.add_assoc]
      exact Nat.add_lt_add_right (Nat.lt_of_lt_of_le this hrot) _
  · rcases List.mem_append.mp hp with hp | hp
    · exact Nat.lt_of_lt_of_le (h4 p hp) (Nat.le_trans (Nat.le_add_right _ _) hrot)
    · have := h3 _ (next_lt _) p hp
      rw [(age_rotate _ h1 _ h1).2.1] at this
      exact Nat.lt_of_lt_of_le this hrot

theorem ginv_put {g : Ghost} (h : GInv g) {now : Nat} (hnow : now < g.lastRoll + histPeriod) (d : Nat) :
    GInv (g.put (now, d)) := by
  obtain ⟨h1, h2, h3, h4⟩ := h
  refine ⟨h1, (List.length_modify ..).trans h2, fun j hj p hp => ?_, h4⟩
  have hp' : p ∈ (g.slots.modify g.idx fun s => (now, d) :: s).getD j [] := hp
  rw [getD_modify_list _ _ _ _ _ (h2 ▸ h1)] at hp'
  split at hp'
  · rename_i hj2
    rcases List.mem_cons.mp hp' with hp' | hp'
    · show p.1 + age g.idx j * histPeriod < g.lastRoll + histPeriod
      rw [hp', ← hj2, (age_rotate _ h1 _ h1).1, Nat.zero_mul]
      exact hnow
    · exact h3 j hj p hp'
  · exact h3 j hj p hp'

theorem ginv_getHist {g : Ghost} (h : GInv g) (now : Nat) :
    GInv (g.getHist now) ∧ now < (g.getHist now).lastRoll + histPeriod := by
  have hP : 0 < histPeriod := by decide
  unfold Ghost.getHist
  split
  · exact ⟨ginv_rotate h (by omega), Nat.lt_add_of_pos_right hP⟩
  · exact ⟨h, by omega⟩

theorem ginv_step {g : Ghost} (h : GInv g) (e : REv) : GInv (stepG g e) := by
  cases e with
  | record now d =>
    rw [stepG_record]
    exact ginv_put (ginv_getHist h now).1 (ginv_getHist h now).2 d
  | reset now =>
    refine ⟨(by decide : 0 < histBuckets), (List.length_map ..).trans h.slots, fun j hj p hp => ?_, fun _ hp => absurd hp List.not_mem_nil⟩
    have hp' : p ∈ (g.slots.map fun _ => ([] : List (Nat × Nat))).getD j [] := hp
    rw [List.map_const', getD_replicate_self] at hp'
    exact absurd hp' List.not_mem_nil

theorem perm_getHist (g : Ghost) (now : Nat) :
    ((g.getHist now).slots.flatten ++ (g.getHist now).dropped).Perm (g.slots.flatten ++ g.dropped) := by
  unfold Ghost.getHist
  split
  · show ((g.slots.modify _ fun _ => []).flatten ++ (g.dropped ++ g.slots.getD _ [])).Perm _
    refine (List.Perm.append_left _ List.perm_append_comm).trans ?_
    rw [← List.append_assoc]
    exact List.Perm.append_right _ (perm_flatten_modify_nil g.slots _)
  · exact List.Perm.refl _

theorem perm_put {g : Ghost} (hi : g.idx < g.slots.length) (p : Nat × Nat) :
    ((g.put p).slots.flatten ++ (g.put p).dropped).Perm (p :: (g.slots.flatten ++ g.dropped)) :=
  List.Perm.append_right g.dropped (perm_flatten_modify_cons p g.slots g.idx hi)

theorem partition_step {g : Ghost} {acc : List (Nat × Nat)} (hg : GInv g)
    (h : acc.Perm (g.slots.flatten ++ g.dropped)) (e : REv) :
    (sinceStep acc e).Perm ((stepG g e).slots.flatten ++ (stepG g e).dropped) := by
  cases e with
  | record now d =>
    obtain ⟨h1, h2, _⟩ := (ginv_getHist hg now).1
    rw [stepG_record]
    exact ((h.trans (perm_getHist g now).symm).cons _).trans (perm_put (h2 ▸ h1) _).symm
  | reset now =>
    show List.Perm [] ((g.slots.map fun _ => ([] : List (Nat × Nat))).flatten ++ [])
    rw [List.map_const', List.flatten_replicate_nil]
    exact List.Perm.nil

theorem ginv_partition_run (es : List REv) :
    GInv (runG es) ∧ (sinceReset es).Perm ((runG es).slots.flatten ++ (runG es).dropped) := by
  let Inv (g : Ghost) (acc : List (Nat × Nat)) : Prop := GInv g ∧ acc.Perm (g.slots.flatten ++ g.dropped)
  have start : Inv Ghost.new [] := ⟨ginv_new, by simp [Ghost.new]⟩
  have step : ∀ g acc e, Inv g acc → Inv (stepG g e) (sinceStep acc e) :=
    fun _ _ e h => ⟨ginv_step h.1 e, partition_step h.1 h.2 e⟩
  exact foldl_rel Inv stepG sinceStep step es Ghost.new [] start

theorem ginv_run (es : List REv) : GInv (runG es) := (ginv_partition_run es).1

theorem partition_run (es : List REv) : (sinceReset es).Perm ((runG es).slots.flatten ++ (runG es).dropped) :=
  (ginv_partition_run es).2

/-- `lastRoll` is 0 or the clock reading of some event -/
theorem lastRoll_le (es : List REv) (now : Nat) (h : ∀ e ∈ es, e.time ≤ now) : (runG es).lastRoll ≤ now :=
  List.foldlRecOn (motive := fun g => g.lastRoll ≤ now) es stepG (Nat.zero_le _) fun g hg e he => by
    cases e with
    | reset t => exact h _ he
    | record t d =>
      rw [stepG_record]
      unfold Ghost.put Ghost.getHist
      split
      · exact h _ he
      · exact hg

theorem dropped_old (es : List REv) (now : Nat) (h : ∀ e ∈ es, e.time ≤ now) :
    ∀ y ∈ (runG es).dropped, y.1 + 5 * histPeriod < now :=
  fun y hy => Nat.lt_of_lt_of_le ((ginv_run es).dropped y hy) (lastRoll_le es now h)

end Hist
