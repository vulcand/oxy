import OxyModel.Model.Hist

/-!
# The indexing arithmetic of the HDR histogram

`counts[i]` counts the interval `[valueAt i, valueAt (i + 1))` of an increasing sequence of boundaries:
`valueAt i ≤ v ↔ i ≤ countsIndexFor v` (`valueAt_le_iff`), `lowestEq v` is the boundary of the position of `v`,
`highestEq v + 1` the next one.  The positions `pos n = (bucket, sub-bucket)` are those the iterator of the Go loops
visits, so that the loops walk `counts` in order by definition.
-/
namespace Hist

theorem bucketIdx_small {v : Nat} (h : v < 256) : bucketIdx v = 0 := by
  have below : v ||| 255 < 2 ^ 8 := Nat.or_lt_two_pow h (by decide)
  have mask : v ||| 255 = 255 := Nat.le_antisymm (Nat.le_of_lt_succ below) Nat.right_le_or
  unfold bucketIdx subBucketMask
  rw [mask]
  rfl

theorem subIdx_eq (v b : Nat) : subIdx v b = v / 2 ^ b := by
  unfold subIdx unitMagnitude
  rw [Nat.add_zero, Nat.shiftRight_eq_div_pow]

theorem valueFromIndex_eq (b s : Nat) : valueFromIndex b s = s * 2 ^ b := by
  unfold valueFromIndex unitMagnitude
  rw [Nat.add_zero, Nat.shiftLeft_eq]

theorem bucketBaseIdx_eq (b : Nat) : bucketBaseIdx b = (b + 1) * 128 := by
  unfold bucketBaseIdx subBucketHalfCountMagnitude
  rw [Nat.shiftLeft_eq]

theorem countsIndex_eq (b s : Nat) : countsIndex b s = b * 128 + s := by
  unfold countsIndex subBucketHalfCount
  rw [bucketBaseIdx_eq, Nat.add_mul, Nat.one_mul, Nat.add_right_comm, Nat.add_sub_cancel]

/-- `v | 255` has `bucketIdx v + 8` bits, and from bit 8 up they are the bits of `v` -/
theorem bucketIdx_spec (v : Nat) : v < 256 * 2 ^ bucketIdx v ∧ (bucketIdx v = 0 ∨ 128 * 2 ^ bucketIdx v ≤ v) := by
  have hx : v ||| 255 ≠ 0 := Nat.ne_of_gt (Nat.lt_of_lt_of_le (by decide : 0 < 255) Nat.right_le_or)
  have h7 : 7 ≤ (v ||| 255).log2 := (Nat.le_log2 hx).2 (Nat.le_trans (by decide : 2 ^ 7 ≤ 255) Nat.right_le_or)
  have e : (v ||| 255).log2 = 7 + bucketIdx v := by
    unfold bucketIdx bitLen subBucketMask
    rw [if_neg hx]
    exact (Nat.add_sub_cancel' h7).symm
  have lo : 2 ^ (7 + bucketIdx v) ≤ v ||| 255 := e ▸ Nat.log2_self_le hx
  have hi : v ||| 255 < 2 ^ (8 + bucketIdx v) := Nat.add_right_comm 7 _ 1 ▸ e ▸ Nat.lt_log2_self
  rw [Nat.pow_add] at lo hi
  refine ⟨Nat.lt_of_le_of_lt Nat.left_le_or hi, ?_⟩
  by_cases hb : bucketIdx v = 0
  · exact Or.inl hb
  · -- below bit `7 + bucketIdx v ≥ 8` both `v` and 255 would be, and so would `v | 255`
    refine Or.inr (Nat.le_of_not_lt fun hv => Nat.not_lt.2 lo ?_)
    rw [← Nat.pow_add 2 7] at hv ⊢
    have h8 : 8 ≤ 7 + bucketIdx v := Nat.add_le_add_left (Nat.pos_of_ne_zero hb) 7
    have mask : 255 < 2 ^ (7 + bucketIdx v) := Nat.lt_of_lt_of_le (by decide : 255 < 2 ^ 8) (Nat.pow_le_pow_right (by decide) h8)
    exact Nat.or_lt_two_pow hv mask

/-- `getBucketIndex` without bit operations -/
theorem bucketIdx_eq (v : Nat) : bucketIdx v = if v < 256 then 0 else Nat.log2 v - 7 := by
  split
  · exact bucketIdx_small ‹_›
  · obtain ⟨hi, lo⟩ := bucketIdx_spec v
    have lo' : 128 * 2 ^ bucketIdx v ≤ v := lo.elim (fun h0 => by rw [h0] at hi; omega) id
    have e : v.log2 = 7 + bucketIdx v := by
      refine (Nat.log2_eq_iff (by omega)).2 ⟨?_, ?_⟩
      · rw [Nat.pow_add]; exact lo'
      · rw [Nat.add_right_comm, Nat.pow_add]; exact hi
    omega

theorem subIdx_lt (v : Nat) : v / 2 ^ bucketIdx v < 256 :=
  (Nat.div_lt_iff_lt_mul (Nat.two_pow_pos _)).2 (bucketIdx_spec v).1

theorem countsIndexFor_eq (v : Nat) : countsIndexFor v = bucketIdx v * 128 + v / 2 ^ bucketIdx v := by
  unfold countsIndexFor
  simp only [subIdx_eq, countsIndex_eq]

theorem lowestEq_eq (v : Nat) : lowestEq v = v / 2 ^ bucketIdx v * 2 ^ bucketIdx v := by
  unfold lowestEq
  simp only [subIdx_eq, valueFromIndex_eq]

theorem sizeOfRange_eq (v : Nat) : sizeOfRange v (bucketIdx v) = 2 ^ bucketIdx v := by
  unfold sizeOfRange subBucketCount unitMagnitude
  simp only [subIdx_eq]
  rw [if_neg (Nat.not_le.2 (subIdx_lt v)), Nat.zero_add, Nat.shiftLeft_eq, Nat.one_mul]

theorem highestEq_eq (v : Nat) : highestEq v = v / 2 ^ bucketIdx v * 2 ^ bucketIdx v + 2 ^ bucketIdx v - 1 := by
  unfold highestEq nextNonEq
  simp only [lowestEq_eq, sizeOfRange_eq]

/-- the iterator of `Merge` and of `getValueFromIdxUpToCount` before its `n`-th move: `(bucketIdx, subBucketIdx + 1)` -/
def iterPos : Nat → Nat × Nat
  | 0 => (0, 0)
  | n + 1 => ((advance (iterPos n).1 (iterPos n).2).1, (advance (iterPos n).1 (iterPos n).2).2 + 1)

/-- where the `n`-th move takes it: `(bucketIdx, subBucketIdx)` of `counts[n]` (`pos_class`) -/
def pos (n : Nat) : Nat × Nat := advance (iterPos n).1 (iterPos n).2

theorem iterPos_zero : iterPos 0 = (0, 0) := rfl

theorem iterPos_succ (n : Nat) : iterPos (n + 1) = ((pos n).1, (pos n).2 + 1) := rfl

theorem pos_zero : pos 0 = (0, 0) := rfl

theorem pos_succ (n : Nat) :
    pos (n + 1) = if (pos n).2 + 1 ≥ 256 then ((pos n).1 + 1, 128) else ((pos n).1, (pos n).2 + 1) := rfl

-- from here on `iterPos` is used through its equations (`iterPos_zero`, `iterPos_succ`, `pos_zero`, `pos_succ`) only
attribute [irreducible] iterPos

/-- after sub-bucket 255 of bucket `b` comes sub-bucket 128 of bucket `b + 1`, at the next position -/
theorem index_next_bucket {b s n : Nat} (h1 : s < 256) (h : s + 1 ≥ 256) (h3 : b * 128 + s = n) :
    (b + 1) * 128 + 128 = n + 1 := by
  have e : s = 255 := by omega
  subst e
  omega

/-- the iterator visits `counts` in order -/
theorem pos_class (n : Nat) : (pos n).2 < 256 ∧ ((pos n).1 = 0 ∨ 128 ≤ (pos n).2) ∧ (pos n).1 * 128 + (pos n).2 = n := by
  induction n with
  | zero => rw [pos_zero]; exact ⟨by decide, Or.inl rfl, rfl⟩
  | succ n ih =>
    rw [pos_succ]
    generalize pos n = p at ih ⊢
    obtain ⟨h1, h2, h3⟩ := ih
    split
    · exact ⟨(by decide : 128 < 256), Or.inr (Nat.le_refl _), index_next_bucket h1 ‹_› h3⟩
    · refine ⟨Nat.lt_of_not_le ‹_›, h2.imp_right Nat.le_succ_of_le, ?_⟩
      show p.1 * 128 + (p.2 + 1) = n + 1
      rw [← Nat.add_assoc, h3]

theorem index_lt_of_bucket_lt {b s b' s' : Nat} (hs : s < 256) (hbs' : b' = 0 ∨ 128 ≤ s') (h : b < b') :
    b * 128 + s < b' * 128 + s' := by
  omega

theorem pos_index {b s : Nat} (hs : s < 256) (hbs : b = 0 ∨ 128 ≤ s) : pos (b * 128 + s) = (b, s) := by
  obtain ⟨h1, h2, h3⟩ := pos_class (b * 128 + s)
  generalize pos (b * 128 + s) = p at h1 h2 h3
  have hb : p.1 = b := by
    rcases Nat.lt_trichotomy p.1 b with h | h | h
    · exact absurd h3 (Nat.ne_of_lt (index_lt_of_bucket_lt h1 hbs h))
    · exact h
    · exact absurd h3 (Nat.ne_of_gt (index_lt_of_bucket_lt hs h2 h))
  exact Prod.ext hb (Nat.add_left_cancel (hb ▸ h3))

theorem pos_countsIndexFor (v : Nat) : pos (countsIndexFor v) = (bucketIdx v, v / 2 ^ bucketIdx v) := by
  rw [countsIndexFor_eq]
  exact pos_index (subIdx_lt v) ((bucketIdx_spec v).2.imp_right (Nat.le_div_iff_mul_le (Nat.two_pow_pos _)).2)

theorem index_pos (n : Nat) : countsIndex (pos n).1 (pos n).2 = n :=
  (countsIndex_eq _ _).trans (pos_class n).2.2

/-- `countsLen` is the position of `(bucketCount, 128)`, one after `(24, 255)` -/
theorem pos_bucket_ge (n : Nat) : (pos n).1 ≥ bucketCount ↔ n ≥ countsLen := by
  obtain ⟨h1, h2, h3⟩ := pos_class n
  unfold bucketCount countsLen
  omega

/-- `valueFromIndex` at position `n`: the lowest value counted at `counts[n]` -/
def valueAt (n : Nat) : Nat := valueFromIndex (pos n).1 (pos n).2

theorem valueAt_eq (n : Nat) : valueAt n = (pos n).2 * 2 ^ (pos n).1 := valueFromIndex_eq _ _

theorem valueAt_succ (n : Nat) : valueAt (n + 1) = ((pos n).2 + 1) * 2 ^ (pos n).1 := by
  have := (pos_class n).1
  rw [valueAt_eq, pos_succ]
  split
  · rw [show (pos n).2 + 1 = 128 * 2 from Nat.le_antisymm this ‹_›, Nat.pow_succ, Nat.mul_assoc, Nat.mul_comm 2]
  · rfl

theorem valueAt_lt_succ (i : Nat) : valueAt i < valueAt (i + 1) := by
  rw [valueAt_eq, valueAt_succ]
  exact Nat.mul_lt_mul_of_lt_of_le (Nat.lt_succ_self _) (Nat.le_refl _) (Nat.two_pow_pos _)

theorem valueAt_mono {i j : Nat} (h : i ≤ j) : valueAt i ≤ valueAt j := by
  induction h with
  | refl => exact Nat.le_refl _
  | step _ ih => exact Nat.le_trans ih (Nat.le_of_lt (valueAt_lt_succ _))

theorem valueAt_bounds (v : Nat) : valueAt (countsIndexFor v) ≤ v ∧ v < valueAt (countsIndexFor v + 1) := by
  rw [valueAt_eq, valueAt_succ, pos_countsIndexFor]
  exact ⟨Nat.div_mul_le_self _ _, by rw [Nat.add_mul, Nat.one_mul]; exact Nat.lt_div_mul_add (Nat.two_pow_pos _)⟩

/-- `valueAt` and `countsIndexFor` form a Galois connection -/
theorem valueAt_le_iff (i v : Nat) : valueAt i ≤ v ↔ i ≤ countsIndexFor v := by
  obtain ⟨lo, hi⟩ := valueAt_bounds v
  refine ⟨fun h => Nat.le_of_lt_succ (Nat.lt_of_not_le fun hn => ?_), fun h => Nat.le_trans (valueAt_mono h) lo⟩
  exact Nat.lt_irrefl _ (Nat.lt_of_le_of_lt (Nat.le_trans (valueAt_mono hn) h) hi)

theorem lt_valueAt_iff (i v : Nat) : v < valueAt i ↔ countsIndexFor v < i := by
  rw [← Nat.not_le, valueAt_le_iff, Nat.not_le]

theorem index_eq_iff (v i : Nat) : countsIndexFor v = i ↔ valueAt i ≤ v ∧ v < valueAt (i + 1) := by
  rw [valueAt_le_iff, lt_valueAt_iff]
  exact ⟨fun h => h ▸ ⟨Nat.le_refl _, Nat.lt_succ_self _⟩, fun h => Nat.le_antisymm (Nat.le_of_lt_succ h.2) h.1⟩

theorem countsIndexFor_mono {u v : Nat} (h : u ≤ v) : countsIndexFor u ≤ countsIndexFor v :=
  (valueAt_le_iff _ v).1 (Nat.le_trans (valueAt_bounds u).1 h)

theorem countsIndexFor_valueAt (i : Nat) : countsIndexFor (valueAt i) = i :=
  (index_eq_iff _ i).2 ⟨Nat.le_refl _, valueAt_lt_succ i⟩

theorem inRange_iff (v : Nat) : countsIndexFor v < countsLen ↔ v < 2 ^ 32 := by
  rw [← lt_valueAt_iff, valueAt_eq, show countsLen = 25 * 128 + 128 from rfl, pos_index (by decide) (Or.inr (Nat.le_refl _))]
  exact Iff.rfl

theorem lowestEq_eq_valueAt (v : Nat) : lowestEq v = valueAt (countsIndexFor v) := by
  rw [lowestEq_eq, valueAt_eq, pos_countsIndexFor]

theorem highestEq_succ (v : Nat) : highestEq v + 1 = valueAt (countsIndexFor v + 1) := by
  have := Nat.two_pow_pos (bucketIdx v)
  rw [highestEq_eq, valueAt_succ, pos_countsIndexFor]
  show _ = (v / 2 ^ bucketIdx v + 1) * 2 ^ bucketIdx v
  rw [Nat.add_mul, Nat.one_mul, Nat.sub_add_cancel (Nat.le_trans this (Nat.le_add_left _ _))]

theorem lowestEq_le (v : Nat) : lowestEq v ≤ v := by
  rw [lowestEq_eq_valueAt]; exact (valueAt_bounds v).1

theorem le_highestEq (v : Nat) : v ≤ highestEq v := by
  rw [← Nat.lt_succ_iff, Nat.succ_eq_add_one, highestEq_succ]; exact (valueAt_bounds v).2

theorem countsIndexFor_eq_iff (u v : Nat) : countsIndexFor u = countsIndexFor v ↔ lowestEq u = lowestEq v := by
  rw [lowestEq_eq_valueAt, lowestEq_eq_valueAt]
  constructor
  · intro h; rw [h]
  · intro h; rw [← countsIndexFor_valueAt (countsIndexFor u), h, countsIndexFor_valueAt]

theorem highestEq_eq_of_index {u v : Nat} (h : countsIndexFor u = countsIndexFor v) : highestEq u = highestEq v :=
  Nat.add_right_cancel (by rw [highestEq_succ, highestEq_succ, h])

theorem countsIndexFor_lowestEq (v : Nat) : countsIndexFor (lowestEq v) = countsIndexFor v := by
  rw [lowestEq_eq_valueAt, countsIndexFor_valueAt]

theorem countsIndexFor_highestEq (v : Nat) : countsIndexFor (highestEq v) = countsIndexFor v :=
  (index_eq_iff _ _).2 ⟨Nat.le_trans (valueAt_bounds v).1 (le_highestEq v), by rw [← highestEq_succ]; exact Nat.lt_succ_self _⟩

theorem lowestEq_highestEq (v : Nat) : lowestEq (highestEq v) = lowestEq v :=
  (countsIndexFor_eq_iff _ _).1 (countsIndexFor_highestEq v)

theorem highestEq_lowestEq (v : Nat) : highestEq (lowestEq v) = highestEq v :=
  highestEq_eq_of_index (countsIndexFor_lowestEq v)

/-- the width of a class: exactly `2^bucket` values; at most `v/128` apart, more than `v/256` wide -/
theorem class_width (v : Nat) :
    highestEq v - lowestEq v + 1 = 2 ^ bucketIdx v ∧
    (highestEq v - lowestEq v) * 128 ≤ v ∧ v < (highestEq v - lowestEq v + 1) * 256 := by
  obtain ⟨hi, lo⟩ := bucketIdx_spec v
  have e : highestEq v - lowestEq v = 2 ^ bucketIdx v - 1 := by
    rw [highestEq_eq, lowestEq_eq, Nat.add_sub_assoc (Nat.two_pow_pos _), Nat.add_sub_cancel_left]
  rw [e, Nat.sub_add_cancel (Nat.two_pow_pos _), Nat.mul_comm _ 256]
  refine ⟨rfl, ?_, hi⟩
  rcases lo with h | h
  · rw [h]; exact Nat.zero_le _
  · omega

end Hist
