import OxyModel.Model.CBreakerHist

/-!
# The composite (breaker × histogram) against the oracle model

A step of `stepH` is `CB.step` on the same event with the oracle read off the histogram (`toEv`), so a run of the composite
is `CB.run` on `toTrace`, event for event and at the same instants.
-/
namespace CB
open CBExpr

/-- what the oracle `CBH.oracleOf` builds returns: the latency at the quantiles of the condition, 0 elsewhere -/
theorem Oracle.get_map (f : Lit → Nat) (qs : List Lit) (q : Lit) :
    Oracle.get (qs.map fun x => (x, f x)) q = if q ∈ qs then f q else 0 := by
  unfold Oracle.get
  induction qs with
  | nil => simp
  | cons a qs ih =>
    rw [List.map_cons, List.find?_cons]
    by_cases h : a = q
    · subst h; simp
    · have h' : ¬ q = a := fun e => h e.symm
      simp only [h, decide_false, List.mem_cons, h', false_or]
      exact ih

end CB

namespace CBH
open CB CBExpr

theorem completeH_eq (kf : KF) (c : Cfg) (s : Brk × Hist.Rolling) (now code lat : Nat) :
    completeH kf c s now code lat =
      (((complete c s.1 now code (oracleOf kf c (s.2.recordLatency now lat))).1,
        if (complete c s.1 now code (oracleOf kf c (s.2.recordLatency now lat))).2
        then (s.2.recordLatency now lat).reset now else s.2.recordLatency now lat),
       (complete c s.1 now code (oracleOf kf c (s.2.recordLatency now lat))).2) := rfl

theorem stepH_brk (kf : KF) (c : Cfg) (s : Brk × Hist.Rolling) (e : EvH) :
    (stepH kf c s e).1.1 = (step c s.1 (toEv kf c s e)).1 ∧ (stepH kf c s e).2 = (step c s.1 (toEv kf c s e)).2 := by
  cases e <;> exact ⟨rfl, rfl⟩

theorem runH_brk (kf : KF) (c : Cfg) (es : List EvH) (s : Brk × Hist.Rolling) :
    (runH kf c s es).1.1 = (run c s.1 (toTrace kf c s es)).1 ∧ (runH kf c s es).2 = (run c s.1 (toTrace kf c s es)).2 := by
  induction es generalizing s with
  | nil => exact ⟨rfl, rfl⟩
  | cons e es ih =>
    obtain ⟨h1, h2⟩ := stepH_brk kf c s e
    obtain ⟨i1, i2⟩ := ih (stepH kf c s e).1
    unfold runH toTrace run
    simp only
    rw [← h1, ← h2]
    exact ⟨i1, by rw [i2]⟩

theorem toTrace_length (kf : KF) (c : Cfg) (es : List EvH) (s : Brk × Hist.Rolling) :
    (toTrace kf c s es).length = es.length := by
  induction es generalizing s with
  | nil => rfl
  | cons e es ih => exact congrArg (· + 1) (ih _)

theorem toTrace_time (kf : KF) (c : Cfg) (es : List EvH) (s : Brk × Hist.Rolling) :
    (toTrace kf c s es).map Ev.time = es.map (fun e => match e with
      | .arrive t => t | .record t _ _ => t | .check t => t | .complete t _ _ => t) := by
  induction es generalizing s with
  | nil => rfl
  | cons e es ih =>
    unfold toTrace
    rw [List.map_cons, List.map_cons, ih]
    cases e <;> rfl

end CBH
