import OxyModel.Proofs.Hist.Index

/-!
# What a histogram holds: `Rep h vs`

`Rep h vs`: the histogram `h` holds exactly the values of the list `vs` (all below 2^32), i.e.
`counts[i]` is the number of `v ∈ vs` with `countsIndexFor v = i` and `totalCount` their number.
`RecordValues` and `Merge` both *add* to the counts (`Adds`), which is all `Rep` needs to know of them; the two Go
loops (the iterator of `Merge`, `getValueFromIdxUpToCount`) are analysed along the positions `Hist.iterPos` / `Hist.pos`.
-/
namespace Hist

/-- `h` holds exactly the values `vs` -/
structure Rep (h : H) (vs : List Nat) : Prop where
  size : h.counts.size = countsLen
  count : ∀ i, h.counts.getD i 0 = vs.countP (fun v => countsIndexFor v = i)
  total : h.total = vs.length
  inRange : ∀ v ∈ vs, v < 2 ^ 32

theorem Rep.perm {h : H} {vs ws : List Nat} (hr : Rep h vs) (p : vs.Perm ws) : Rep h ws where
  size := hr.size
  count i := by rw [hr.count, p.countP_eq]
  total := by rw [hr.total, p.length_eq]
  inRange v hv := hr.inRange v (p.mem_iff.2 hv)

theorem rep_new : Rep H.new [] := by
  refine ⟨Array.size_replicate, fun i => ?_, rfl, by simp⟩
  show (Array.replicate countsLen 0).getD i 0 = _
  rewrite [Array.getD_eq_getD_getElem?, Array.getElem?_replicate]
  by_cases h : i < countsLen
  · rewrite [if_pos h]; simp
  · rewrite [if_neg h]; simp

theorem rep_reset {h : H} {vs : List Nat} (hr : Rep h vs) : Rep h.reset [] := by
  refine ⟨by simp [H.reset, hr.size], fun i => ?_, rfl, by simp⟩
  simp only [H.reset, Array.getD_eq_getD_getElem?, Array.getElem?_map]
  cases h.counts[i]? <;> simp

/-- `h'` is `h` with `f i` more at every position `i` and `t` more in total -/
structure Adds (h h' : H) (f : Nat → Nat) (t : Nat) : Prop where
  size : h'.counts.size = h.counts.size
  count : ∀ i, h'.counts.getD i 0 = h.counts.getD i 0 + f i
  total : h'.total = h.total + t

theorem Adds.none (h : H) {f : Nat → Nat} (hf : ∀ i, f i = 0) : Adds h h f 0 :=
  ⟨rfl, fun i => by rw [hf]; rfl, rfl⟩

theorem Adds.trans {h h' h'' : H} {f g k : Nat → Nat} {t u w : Nat} (a : Adds h h' f t) (b : Adds h' h'' g u)
    (hk : ∀ i, k i = f i + g i) (hw : w = t + u) : Adds h h'' k w where
  size := b.size.trans a.size
  count i := by rw [b.count, a.count, hk, Nat.add_assoc]
  total := by rw [b.total, a.total, hw, Nat.add_assoc]

theorem Rep.adds {h h' : H} {vs ws : List Nat} (hr : Rep h vs) (hw : ∀ w ∈ ws, w < 2 ^ 32)
    (a : Adds h h' (fun i => ws.countP (fun v => countsIndexFor v = i)) ws.length) : Rep h' (vs ++ ws) where
  size := a.size.trans hr.size
  count i := by rw [a.count, hr.count, List.countP_append]
  total := by rw [a.total, hr.total, List.length_append]
  inRange v hv := (List.mem_append.mp hv).elim (hr.inRange v) (hw v)

theorem getD_modify (a : Array Nat) (j i n : Nat) (hj : j < a.size) :
    (a.modify j (· + n)).getD i 0 = a.getD i 0 + if j = i then n else 0 := by
  simp only [Array.getD_eq_getD_getElem?, Array.getElem?_modify]
  by_cases h : j = i
  · subst h
    simp [hj]
  · simp [h]

theorem adds_recordValues (h : H) {v : Nat} (hsz : h.counts.size = countsLen) (hv : countsIndexFor v < countsLen) (n : Nat) :
    Adds h (h.recordValues v n) (fun i => if countsIndexFor v = i then n else 0) n := by
  unfold H.recordValues
  simp only
  rw [if_neg (Nat.not_le.2 hv)]
  exact ⟨by simp, fun i => getD_modify _ _ _ _ (hsz ▸ hv), rfl⟩

theorem recordValues_out (h : H) {v : Nat} (hv : ¬ v < 2 ^ 32) (n : Nat) : h.recordValues v n = h := by
  unfold H.recordValues
  simp only
  rw [if_pos (Nat.le_of_not_lt fun c => hv ((inRange_iff v).1 c))]

/-- `RecordValue(v)`: one more held value, unless it is out of range -/
theorem rep_record {h : H} {vs : List Nat} (hr : Rep h vs) (v : Nat) :
    Rep (h.record v) (if v < 2 ^ 32 then v :: vs else vs) := by
  split
  · have hv : v < 2 ^ 32 := ‹_›
    refine (hr.adds (ws := [v]) (fun w hw => List.mem_singleton.1 hw ▸ hv) ?_).perm List.perm_append_comm
    simp only [List.countP_singleton, decide_eq_true_eq]
    exact adds_recordValues h hr.size ((inRange_iff v).2 hv) 1
  · rw [H.record, recordValues_out h ‹_›]
    exact hr

/-- the list side of `rep_record` for lists kept as "the values below 2^32 of a log" (`Hist.held`, `Hist.vals`) -/
theorem filter_inRange_cons (v : Nat) (l : List Nat) :
    (v :: l).filter (fun v => decide (v < 2 ^ 32)) =
      if v < 2 ^ 32 then v :: l.filter (fun v => decide (v < 2 ^ 32)) else l.filter (fun v => decide (v < 2 ^ 32)) := by
  rw [List.filter_cons]
  simp only [decide_eq_true_eq]

/-- `counts[0] + … + counts[n-1]` -/
def psum (a : Array Nat) : Nat → Nat
  | 0 => 0
  | n + 1 => psum a n + a.getD n 0

theorem psum_mono (a : Array Nat) {m n : Nat} (h : m ≤ n) : psum a m ≤ psum a n := by
  induction h with
  | refl => exact Nat.le_refl _
  | step _ ih => exact Nat.le_trans ih (Nat.le_add_right _ _)

theorem getD_eq_zero_of_psum_le {a : Array Nat} {n : Nat} (h : psum a a.size ≤ psum a n) {i : Nat} (hi : n ≤ i) :
    a.getD i 0 = 0 := by
  by_cases hs : i < a.size
  · have : psum a i + a.getD i 0 ≤ psum a i + 0 :=
      Nat.le_trans (psum_mono a (show i + 1 ≤ a.size from hs)) (Nat.le_trans h (psum_mono a hi))
    exact Nat.le_zero.1 (Nat.le_of_add_le_add_left this)
  · simp [Array.getD_eq_getD_getElem?, Array.getElem?_eq_none (Nat.le_of_not_lt hs)]

theorem countP_lt_succ {α : Type} (f : α → Nat) (l : List α) (n : Nat) :
    l.countP (fun x => f x < n + 1) = l.countP (fun x => f x < n) + l.countP (fun x => f x = n) := by
  induction l with
  | nil => rfl
  | cons x l ih =>
    simp only [List.countP_cons, ih, decide_eq_true_eq]
    rcases Nat.lt_trichotomy (f x) n with h | h | h
    · rw [if_pos (Nat.lt_succ_of_lt h), if_pos h, if_neg (Nat.ne_of_lt h)]; exact Nat.add_right_comm _ _ _
    · rw [if_pos (h ▸ Nat.lt_succ_self _), if_neg (h ▸ Nat.lt_irrefl _), if_pos h]; rfl
    · rw [if_neg (Nat.not_lt.2 h), if_neg (Nat.lt_asymm h), if_neg (Nat.ne_of_gt h)]; rfl

theorem psum_rep {h : H} {vs : List Nat} (hr : Rep h vs) (n : Nat) :
    psum h.counts n = vs.countP (fun v => decide (v < valueAt n)) := by
  simp only [lt_valueAt_iff]
  induction n with
  | zero => simp [psum]
  | succ n ih => rw [countP_lt_succ, ← ih, ← hr.count n]; rfl

theorem total_rep {h : H} {vs : List Nat} (hr : Rep h vs) : h.total = psum h.counts countsLen := by
  rw [psum_rep hr, hr.total]
  exact (List.countP_eq_length.2 fun v hv =>
    decide_eq_true ((lt_valueAt_iff _ v).2 ((inRange_iff v).2 (hr.inRange v hv)))).symm

theorem upToLoop_break (counts : Array Nat) (k fuel b s c value : Nat) (h : c ≥ k) :
    upToLoop counts k fuel b s c value = value := by
  cases fuel with
  | zero => rfl
  | succ fuel => rw [upToLoop, if_pos h]

theorem upToLoop_succ (counts : Array Nat) (k fuel n c value : Nat) (h : ¬ c ≥ k) :
    upToLoop counts k (fuel + 1) (iterPos n).1 (iterPos n).2 c value =
      upToLoop counts k fuel (iterPos (n + 1)).1 (iterPos (n + 1)).2 (c + counts.getD n 0) (valueAt n) := by
  rw [upToLoop, if_neg h]
  show upToLoop counts k fuel (pos n).1 ((pos n).2 + 1) (c + counts.getD (countsIndex (pos n).1 (pos n).2) 0) _ = _
  rw [index_pos, iterPos_succ]
  rfl

/-- the loop stops at the first position `m` whose prefix sum reaches `k`, within its iterations -/
theorem upToLoop_spec (counts : Array Nat) (k : Nat) (fuel n value : Nat)
    (h1 : psum counts n < k) (h2 : k ≤ psum counts (n + fuel)) :
    ∃ m, n ≤ m ∧ m < n + fuel ∧ psum counts m < k ∧ k ≤ psum counts (m + 1) ∧
      upToLoop counts k fuel (iterPos n).1 (iterPos n).2 (psum counts n) value = valueAt m := by
  induction fuel generalizing n value with
  | zero => exact absurd h2 (Nat.not_le.2 h1)
  | succ fuel ih =>
    rw [upToLoop_succ _ _ _ _ _ _ (Nat.not_le.2 h1)]
    by_cases h3 : k ≤ psum counts (n + 1)
    · exact ⟨n, Nat.le_refl n, by omega, h1, h3, upToLoop_break _ _ _ _ _ _ _ h3⟩
    · obtain ⟨m, a1, a2, a3⟩ := ih (n + 1) (valueAt n) (Nat.not_le.1 h3) (by rw [Nat.add_right_comm]; exact h2)
      exact ⟨m, by omega, by omega, a3⟩

/-- `getValueFromIdxUpToCount(k)` for `1 ≤ k ≤ totalCount`: the break comes at a position inside `counts` (the Go loop has no
    bounds check of its own) -/
theorem valueUpToCount_spec {h : H} {vs : List Nat} (hr : Rep h vs) {k : Nat} (h1 : 1 ≤ k) (h2 : k ≤ h.total) :
    ∃ m, m < countsLen ∧ psum h.counts m < k ∧ k ≤ psum h.counts (m + 1) ∧ h.valueUpToCount k = valueAt m := by
  rw [total_rep hr] at h2
  obtain ⟨m, _, hm, a⟩ := upToLoop_spec h.counts k countsLen 0 0 h1 (by rwa [Nat.zero_add])
  rw [iterPos_zero] at a
  exact ⟨m, Nat.zero_add countsLen ▸ hm, a⟩

theorem valueUpToCount_zero (h : H) : h.valueUpToCount 0 = 0 :=
  upToLoop_break _ _ _ _ _ _ _ (Nat.le_refl 0)

theorem mergeLoop_stop (src : H) (fuel n c : Nat) (h : H) (hs : c ≥ src.total ∨ n ≥ countsLen) :
    mergeLoop src fuel (iterPos n).1 (iterPos n).2 c h = h := by
  cases fuel with
  | zero => rfl
  | succ fuel =>
    rw [mergeLoop]
    by_cases hc : c ≥ src.total
    · rw [if_pos hc]
    · rw [if_neg hc]
      exact if_pos ((pos_bucket_ge n).2 (hs.resolve_left hc))

theorem mergeLoop_succ (src : H) (fuel n c : Nat) (h : H) (hc : ¬ c ≥ src.total) (hn : ¬ n ≥ countsLen) :
    mergeLoop src (fuel + 1) (iterPos n).1 (iterPos n).2 c h =
      mergeLoop src fuel (iterPos (n + 1)).1 (iterPos (n + 1)).2 (c + src.counts.getD n 0)
        (if src.counts.getD n 0 ≠ 0 then h.recordValues (valueAt n) (src.counts.getD n 0) else h) := by
  have e : advance (iterPos n).1 (iterPos n).2 = pos n := rfl
  rw [mergeLoop, if_neg hc]
  simp only [e]
  rw [if_neg (fun a => hn ((pos_bucket_ge n).1 a)), index_pos, iterPos_succ]
  rfl

theorem ite_lt_succ (f : Nat → Nat) (n i : Nat) :
    (if i < n + 1 then f i else 0) = (if i < n then f i else 0) + if n = i then f n else 0 := by
  rcases Nat.lt_trichotomy i n with h | rfl | h
  · rw [if_pos (Nat.lt_succ_of_lt h), if_pos h, if_neg (Nat.ne_of_gt h)]; rfl
  · rw [if_pos (Nat.lt_succ_self _), if_neg (Nat.lt_irrefl _), if_pos rfl, Nat.zero_add]
  · rw [if_neg (Nat.not_lt.2 h), if_neg (Nat.lt_asymm h), if_neg (Nat.ne_of_lt h)]

/-- the loop at position `n`, having added the source's counts below `n` to `h0`, leaves `h0` with all of them added -/
theorem adds_mergeLoop (src : H) (hsz : src.counts.size = countsLen) (htot : src.total = psum src.counts countsLen)
    (h0 : H) (fuel n : Nat) (h : H) (hh : h.counts.size = countsLen) (hn : n ≤ countsLen) (hf : countsLen + 1 ≤ n + fuel)
    (inv : Adds h0 h (fun i => if i < n then src.counts.getD i 0 else 0) (psum src.counts n)) :
    Adds h0 (mergeLoop src fuel (iterPos n).1 (iterPos n).2 (psum src.counts n) h) (fun i => src.counts.getD i 0) src.total := by
  induction fuel generalizing n h with
  | zero => exact absurd (Nat.le_trans hf hn) (Nat.not_succ_le_self _)
  | succ fuel ih =>
    by_cases hs : psum src.counts n ≥ src.total ∨ n ≥ countsLen
    · -- where the iterator stops (count reached, or end of the array) the remaining counts are zero
      rw [mergeLoop_stop _ _ _ _ _ hs]
      have hle : src.total ≤ psum src.counts n := hs.elim id fun a => htot ▸ psum_mono _ a
      have hle' : psum src.counts src.counts.size ≤ psum src.counts n := by rw [hsz, ← htot]; exact hle
      refine ⟨inv.size, fun i => ?_, ?_⟩
      · rw [inv.count]
        split
        · rfl
        · rw [getD_eq_zero_of_psum_le hle' (Nat.le_of_not_lt ‹_›)]
      · rw [inv.total, Nat.le_antisymm hle (htot ▸ psum_mono _ hn)]
    · obtain ⟨hc, hn'⟩ := not_or.mp hs
      have hn' : n < countsLen := Nat.lt_of_not_le hn'
      rw [mergeLoop_succ _ _ _ _ _ hc (Nat.not_le.2 hn')]
      -- this round adds `counts[n]` at position `n` (recording nothing when it is 0)
      have a1 : Adds h (if src.counts.getD n 0 ≠ 0 then h.recordValues (valueAt n) (src.counts.getD n 0) else h)
          (fun i => if n = i then src.counts.getD n 0 else 0) (src.counts.getD n 0) := by
        by_cases hz : src.counts.getD n 0 = 0
        · rw [if_neg (not_not_intro hz), hz]
          exact Adds.none h fun i => ite_self 0
        · rw [if_pos hz]
          have := adds_recordValues h hh (v := valueAt n) (by rw [countsIndexFor_valueAt]; exact hn') (src.counts.getD n 0)
          rwa [countsIndexFor_valueAt] at this
      exact ih (n + 1) _ (a1.size.trans hh) hn' (by rw [Nat.add_right_comm]; exact hf)
        (inv.trans a1 (ite_lt_succ _ n) rfl)

/-- **`Merge` adds the counts position by position** (for histograms that hold value lists) -/
theorem adds_merge {h src : H} {vs ws : List Nat} (hh : Rep h vs) (hs : Rep src ws) :
    Adds h (h.merge src) (fun i => src.counts.getD i 0) src.total := by
  have := adds_mergeLoop src hs.size (total_rep hs) h (countsLen + 1) 0 h hh.size (Nat.zero_le _) (Nat.le_add_left _ _)
    (Adds.none h fun _ => rfl)
  rw [iterPos_zero] at this
  exact this

theorem rep_merge {h src : H} {vs ws : List Nat} (hh : Rep h vs) (hs : Rep src ws) : Rep (h.merge src) (vs ++ ws) :=
  hh.adds hs.inRange (by simpa only [hs.count, hs.total] using adds_merge hh hs)

/-- a relation between two states kept by every step is kept by runs over the same events -/
theorem foldl_rel {σ τ ε : Type} (R : σ → τ → Prop) (f : σ → ε → σ) (g : τ → ε → τ)
    (hstep : ∀ s t e, R s t → R (f s e) (g t e)) : ∀ (es : List ε) (s : σ) (t : τ), R s t → R (es.foldl f s) (es.foldl g t)
  | [], _, _, h => h
  | e :: es, _, _, h => foldl_rel R f g hstep es _ _ (hstep _ _ e h)

/-- the values of `vs` counted at positions `≥ n` -/
def fromPos (vs : List Nat) (n : Nat) : List Nat := vs.filter (fun v => decide (n ≤ countsIndexFor v))

theorem countP_fromPos (vs : List Nat) (n i : Nat) :
    (fromPos vs n).countP (fun v => countsIndexFor v = i) =
      if n ≤ i then vs.countP (fun v => countsIndexFor v = i) else 0 := by
  unfold fromPos
  rw [List.countP_filter]
  split
  · exact List.countP_congr fun v _ => by
      simp only [decide_eq_true_eq, Bool.and_eq_true]
      exact ⟨fun a => a.1, fun a => ⟨a, a ▸ ‹n ≤ i›⟩⟩
  · exact List.countP_eq_zero.2 fun v _ => by
      simp only [decide_eq_true_eq, Bool.and_eq_true]
      exact fun a => ‹¬ n ≤ i› (a.1 ▸ a.2)

end Hist
