import OxyModel.Proofs.Hist.Counts

/-!
# Histories of one histogram

The vocabulary `C18_hist_counts` and `C18_quantile_rank` quantify over; the histogram a history leaves holds `held ops` (`rep_runOps`).
-/
namespace Hist

/-- an operation on one `hdrhistogram.Histogram` -/
inductive HOp where
  | record (v : Nat)       -- `RecordValue(v)`
  | reset                  -- `Reset()`
deriving Repr, DecidableEq

def HOp.apply (h : H) : HOp → H
  | .record v => h.record v
  | .reset => h.reset

/-- a new histogram after a history of operations -/
def runOps (ops : List HOp) : H := ops.foldl HOp.apply H.new

def HOp.log (acc : List Nat) : HOp → List Nat
  | .record v => v :: acc
  | .reset => []

/-- the values recorded since the last reset (every value: also those the histogram drops), newest first -/
def sinceOps (ops : List HOp) : List Nat := ops.foldl HOp.log []

/-- the values below 2^32 among them: those the histogram holds -/
def held (ops : List HOp) : List Nat := (sinceOps ops).filter (fun v => decide (v < 2 ^ 32))

theorem rep_runOps (ops : List HOp) : Rep (runOps ops) (held ops) :=
  foldl_rel (fun (h : H) (acc : List Nat) => Rep h (acc.filter fun v => decide (v < 2 ^ 32))) HOp.apply HOp.log
    (fun h acc o hr => by
      cases o with
      | record v =>
        show Rep (h.record v) ((v :: acc).filter _)
        rw [filter_inRange_cons]
        exact rep_record hr v
      | reset => exact rep_reset hr)
    ops H.new [] rep_new

theorem countP_held_index (ops : List HOp) (i : Nat) (hi : i < countsLen) :
    (held ops).countP (fun v => countsIndexFor v = i) = (sinceOps ops).countP (fun v => countsIndexFor v = i) := by
  unfold held
  rw [List.countP_filter]
  exact List.countP_congr fun v _ => by
    simp only [decide_eq_true_eq, Bool.and_eq_true]
    exact ⟨fun a => a.1, fun a => ⟨a, (inRange_iff v).1 (a ▸ hi)⟩⟩

theorem length_held (ops : List HOp) :
    (held ops).length = (sinceOps ops).countP (fun v => countsIndexFor v < countsLen) := by
  unfold held
  rw [← List.countP_eq_length_filter]
  exact List.countP_congr fun v _ => by
    simp only [decide_eq_true_eq]
    exact (inRange_iff v).symm

end Hist
